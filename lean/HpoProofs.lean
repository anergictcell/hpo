import HpoProofs.Group
import HpoProofs.TermId
import HpoProofs.Arena
import HpoProofs.Read
import HpoProofs.Frame
import HpoProofs.Closure
import HpoProofs.BuilderInv
import HpoProofs.Link
import HpoProofs.Annotate
import HpoProofs.NumReal
import HpoProofs.Ic
import HpoProofs.SetOps
import HpoProofs.Compare
import HpoProofs.Facts
import HpoProofs.Text
import HpoProofs.Path
import HpoProofs.SubOntology
import HpoProofs.SubOntologyRun
import HpoProofs.Similarity
import HpoProofs.Matrix
import HpoProofs.Combine
import HpoProofs.Distance
import HpoProofs.Binary
import HpoProofs.BinaryLoad
import HpoProofs.Hypergeom
import HpoProofs.Counts
import HpoProofs.Enrich
import HpoProofs.Linkage
import HpoProofs.LinkageClosed
import HpoProofs.Lookup
import HpoProofs.Acyclic
import HpoProofs.Built
import HpoProofs.BuilderRun
import HpoProofs.LoadRefine
import HpoProofs.TextRefine
import HpoProofs.LoadRun
import HpoProofs.ReachableSub
import HpoProofs.Bulk
import HpoProofs.Rounded
import HpoProofs.RNum
import HpoProofs.CombineFast
import HpoProofs.HypergeomFast
import HpoProofs.BulkFast
