import HpoModel.Builder
/-! Annotation-phase call histories of the builder (shared by C02, C03, C15, C16). -/
namespace Hpo

/-- annotation-phase builder calls -/
inductive AOp where
  | addRec (k : Kind) (name : List Char) (id : Nat)
  | annotate (k : Kind) (rid : Nat) (name : List Char) (t : Nat)
deriving Repr

/-- one call; an `Err` result leaves the builder unchanged -/
def applyA (o : Onto) : AOp → Onto
  | .addRec k n i => o.addRec k n i
  | .annotate k rid n t => match o.annotate k rid n t with
    | .ok o' => o'
    | _ => o

def runA (ops : List AOp) (o : Onto) : Onto := ops.foldl applyA o

end Hpo
