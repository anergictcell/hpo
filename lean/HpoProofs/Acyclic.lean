import Mathlib.Logic.Relation
/-!
A finite irreflexive is_a relation has a rank function bounded by the number of terms: the number
of ids a term reaches.  A child reaches its parent and all that the parent reaches; the parent
does not reach itself.
-/
namespace Hpo
open Relation

theorem countP_lt_countP {α : Type} {p q : α → Bool} {l : List α} (hpq : ∀ x ∈ l, p x → q x)
    {x : α} (hx : x ∈ l) (hq : q x) (hp : ¬ p x) : l.countP p < l.countP q := by
  obtain ⟨l1, l2, rfl⟩ := List.append_of_mem hx
  have h1 : l1.countP p ≤ l1.countP q :=
    List.countP_mono_left fun y hy => hpq y (List.mem_append_left _ hy)
  have h2 : l2.countP p ≤ l2.countP q :=
    List.countP_mono_left fun y hy => hpq y (List.mem_append_right _ (List.mem_cons_of_mem _ hy))
  have hp' : p x = false := Bool.eq_false_iff.2 hp
  simp only [List.countP_append, List.countP_cons, hq, hp', if_true, Bool.false_eq_true, if_false]
  exact Nat.add_lt_add_of_le_of_lt h1 (Nat.lt_succ_of_le h2)

open Classical in
theorem rank_of_irreflexive (par : Nat → List Nat) (ids : List Nat)
    (htgt : ∀ c p, p ∈ par c → p ∈ ids)
    (hirr : ∀ j, ¬ TransGen (fun c p => p ∈ par c) j j) :
    ∃ rank : Nat → Nat, (∀ c p, p ∈ par c → rank p < rank c) ∧ ∀ j, rank j < ids.length + 1 := by
  refine ⟨fun j => ids.countP fun a => TransGen (fun c p => p ∈ par c) j a, fun c p hp => ?_,
    fun j => Nat.lt_succ_of_le List.countP_le_length⟩
  refine countP_lt_countP (x := p) (fun a _ h => ?_) (htgt c p hp) ?_ ?_
  · exact decide_eq_true (TransGen.head hp (of_decide_eq_true h))
  · exact decide_eq_true (TransGen.single hp)
  · exact fun h => hirr p (of_decide_eq_true h)

end Hpo
