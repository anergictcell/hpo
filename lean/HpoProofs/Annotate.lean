import HpoProofs.Link
import HpoProofs.AOps
/-!
The annotation phase of the builder (`add_gene`/`add_*_disease`, `annotate_*`).

For every history of calls on a connected ontology, for each kind separately: a record id is on a
term iff the record is directly annotated to the term or to a descendant; records list exactly
their direct terms; failing calls change nothing (`AnnInv`, kept by every call: `AnnState.step`).
One call is described once: a call naming an unknown term leaves the state
(`AnnInv.applyA_absent`); a call naming a known term succeeds with the postcondition of `link`
(`AnnState.applyA_present`). What no call touches needs no invariant (`AnnFrame`).
-/
namespace Hpo
open Group

/-- direct terms of record `r` of kind `k` (`[]` if there is no such record) -/
def hposOf (k : Kind) (o : Onto) (r : Nat) : List Nat := ((getR (o.recs k) r).map (·.hpos)).getD []

theorem hposOf_eq {k : Kind} {o : Onto} {j : Nat} {r : Rec} (h : getR (o.recs k) j = some r) :
    hposOf k o j = r.hpos := by simp [hposOf, h]

theorem hposOf_nil {k : Kind} {o : Onto} (h : o.recs k = []) (r : Nat) : hposOf k o r = [] := by
  rw [hposOf, h]; rfl

theorem mem_hposOf {k : Kind} {o : Onto} {r d : Nat} :
    d ∈ hposOf k o r ↔ ∃ rc, getR (o.recs k) r = some rc ∧ d ∈ rc.hpos :=
  mem_getD_map

theorem getR_addRec (o : Onto) (k : Kind) (n : List Char) (i : Nat) (k' : Kind) (r : Nat) :
    getR ((o.addRec k n i).recs k') r =
      if k = k' ∧ i = r then (getR (o.recs k') r).or (some { id := i, name := n })
      else getR (o.recs k') r := by
  unfold Onto.addRec
  by_cases hk : k = k'
  · subst hk
    rw [recs_setRecs, getR_addR]
    by_cases hi : i = r
    · rw [if_pos hi, if_pos ⟨rfl, hi⟩]
    · rw [if_neg hi, if_neg (fun h => hi h.2), Option.or_none]
  · rw [recs_setRecs_ne _ _ _ _ (Ne.symm hk), if_neg (fun h => hk h.1)]

theorem getR_addTermToRec (o : Onto) (k : Kind) (n : List Char) (rid t : Nat) (k' : Kind) (r : Nat) :
    getR ((o.addTermToRec k n rid t).recs k') r =
      if k = k' ∧ rid = r then
        some { id := rid, name := ((getR (o.recs k') r).map (·.name)).getD n,
               hpos := (insert (hposOf k' o r) t).1 }
      else getR (o.recs k') r := by
  unfold Onto.addTermToRec
  by_cases hk : k = k'
  · subst hk
    rw [recs_setRecs, getR_modR _ rid r (fun r => { r with hpos := (Group.insert r.hpos t).1 }) (fun _ => rfl),
      getR_addRec]
    by_cases hr : rid = r
    · subst hr
      rw [if_pos rfl, if_pos ⟨rfl, rfl⟩, if_pos ⟨rfl, rfl⟩, hposOf]
      cases h : getR (o.recs k) rid with
      | some x => rw [Option.some_or, Option.map_some]; cases x; cases getR_id h; rfl
      | none => rfl
    · have hn : ¬ (k = k ∧ rid = r) := fun h => hr h.2
      rw [if_neg (Ne.symm hr), if_neg hn, if_neg hn, Option.map_id_apply]
  · rw [recs_setRecs_ne _ _ _ _ (Ne.symm hk), getR_addRec, if_neg (fun h => hk h.1), if_neg (fun h => hk h.1)]

theorem hposOf_addRec (o : Onto) (k k' : Kind) (n : List Char) (i r : Nat) :
    hposOf k' (o.addRec k n i) r = hposOf k' o r := by
  unfold hposOf; rw [getR_addRec]
  split
  · cases getR (o.recs k') r <;> rfl
  · rfl

theorem hposOf_addTermToRec (o : Onto) (k k' : Kind) (n : List Char) (rid t r : Nat) :
    hposOf k' (o.addTermToRec k n rid t) r =
      if k' = k ∧ r = rid then (insert (hposOf k o rid) t).1 else hposOf k' o r := by
  rw [hposOf, getR_addTermToRec]
  by_cases h : k = k' ∧ rid = r
  · obtain ⟨rfl, rfl⟩ := h; simp
  · rw [if_neg h, if_neg (fun h' => h ⟨h'.1.symm, h'.2.symm⟩)]; rfl

theorem mem_hposOf_addTermToRec (o : Onto) (k k' : Kind) (n : List Char) (rid t r d : Nat) :
    d ∈ hposOf k' (o.addTermToRec k n rid t) r ↔ d ∈ hposOf k' o r ∨ (k' = k ∧ r = rid ∧ d = t) := by
  rw [hposOf_addTermToRec]
  split
  · rename_i h
    obtain ⟨rfl, rfl⟩ := h
    rw [mem_insert, or_comm, and_iff_right rfl, and_iff_right rfl]
  · rename_i h
    rw [or_iff_left fun e => h ⟨e.1, e.2.1⟩]

theorem terms_addTermToRec (o : Onto) (k : Kind) (n : List Char) (rid t : Nat) :
    (o.addTermToRec k n rid t).terms = o.terms := by
  rw [Onto.addTermToRec, terms_setRecs, Onto.addRec, terms_setRecs]

theorem hposOf_of_rest {o o' : Onto} {ts : List Term} {s : Term}
    (h : o' = { o with terms := ts, slot0 := s }) (k : Kind) (r : Nat) : hposOf k o' r = hposOf k o r := by
  rw [hposOf, recs_of_rest h, hposOf]

theorem annotateSt_of_ok {o o' : Onto} {k : Kind} {rid t : Nat} {n : List Char}
    (h : o.annotate k rid n t = .ok o') : o.annotateSt k rid n t = (o', .ok ()) := by
  unfold Onto.annotate at h
  unfold Onto.annotateSt
  cases hg : o.get t with
  | none => rw [hg] at h; cases h
  | some tm => rw [hg] at h; simp only [h]

section
variable (anc : Nat → List Nat) (ex : Nat → Prop)

/-- invariant of `Builder<ConnectedTerms>` for all three kinds. The ancestor function `anc` and the set `ex`
of terms (and `rank` in `AncClosure` / `AnnState`) are parameters, instantiated once, with `C02.ancOf` /
`C02.present` of the connected ontology: two ontologies with the same terms then share ONE invariant, which is
how two runs are compared (`C16.annState_of_lookups`, `AnnState.runA_perm`). -/
structure AnnInv (o : Onto) : Prop where
  ancF : ∀ j, allOf o.terms j = anc j
  pres : ∀ j, (getT o.terms j).isSome ↔ ex j
  small : ∀ j, (getT o.terms j).isSome → j < maxId
  sorted : ∀ k j, Sorted (annOf k o.terms j)
  /-- a record is on a term iff it is directly annotated to the term or one of its descendants -/
  linked : ∀ k x r, r ∈ annOf k o.terms x ↔ ∃ d, d ∈ hposOf k o r ∧ Up anc d x
  /-- direct terms of every record resolve -/
  recTerms : ∀ k r d, d ∈ hposOf k o r → ex d
  hposSorted : ∀ k r, Sorted (hposOf k o r)

variable {anc} {ex}

theorem AnnInv.lstate {o : Onto} (h : AnnInv anc ex o) (k : Kind) : LState anc ex k o.terms :=
  ⟨h.ancF, h.pres, h.small, h.sorted k⟩

theorem AnnInv.upclosed {o : Onto} (h : AnnInv anc ex o) (rank : Nat → Nat)
    (hc : AncClosure anc ex rank) (k : Kind) (x r : Nat)
    (hx : r ∈ annOf k o.terms x) : ∀ y ∈ anc x, r ∈ annOf k o.terms y := by
  intro y hy
  obtain ⟨d, hd, hu⟩ := (h.linked k x r).1 hx
  refine (h.linked k y r).2 ⟨d, hd, Or.inr ?_⟩
  rcases hu with rfl | hu
  · exact hy
  · exact hc.trans d x y hu hy

theorem AnnInv.ann_length_le {o : Onto} (h : AnnInv anc ex o) (k : Kind) (x : Nat) :
    (annOf k o.terms x).length ≤ (o.recs k).length := by
  -- `sorted`: no record is on a term twice; a record on a term has a direct term (`linked`), so it is a
  -- record of the ontology
  refine length_le_of_resolves (h.sorted k x).nodup fun r hr => ?_
  obtain ⟨_, hd, _⟩ := (h.linked k x r).1 hr
  exact isSome_of_mem_getD hd

theorem annInv_addRec (o : Onto) (k : Kind) (n : List Char) (i : Nat) (h : AnnInv anc ex o) :
    AnnInv anc ex (o.addRec k n i) := by
  have ht : (o.addRec k n i).terms = o.terms := terms_setRecs _ _ _
  constructor
  · rw [ht]; exact h.ancF
  · rw [ht]; exact h.pres
  · rw [ht]; exact h.small
  · rw [ht]; exact h.sorted
  · intro k' x r; rw [ht, hposOf_addRec]; exact h.linked k' x r
  · intro k' r d; rw [hposOf_addRec]; exact h.recTerms k' r d
  · intro k' r; rw [hposOf_addRec]; exact h.hposSorted k' r

theorem AnnInv.get_isSome_iff {o : Onto} (h : AnnInv anc ex o) (t : Nat) : (o.get t).isSome ↔ ex t := by
  rw [get_eq_getT o t h.small]; exact h.pres t

theorem AnnInv.annotate_absent {o : Onto} (h : AnnInv anc ex o) (k : Kind) (rid : Nat) (n : List Char)
    {t : Nat} (ht : ¬ ex t) : o.annotate k rid n t = .err .doesNotExist := by
  rw [Onto.annotate, Option.not_isSome_iff_eq_none.1 (mt (h.get_isSome_iff t).1 ht)]

theorem AnnInv.annotate_present {o : Onto} (h : AnnInv anc ex o) (rank : Nat → Nat)
    (hc : AncClosure anc ex rank) (hfuel : ∀ j, rank j < o.terms.length + 2) (k : Kind) (rid : Nat)
    (n : List Char) {t : Nat} (ht : ex t) :
    ∃ o', o.annotate k rid n t = .ok o' ∧ LinkPost anc ex k rid t (o.addTermToRec k n rid t) o' := by
  obtain ⟨tm, htm⟩ := Option.isSome_iff_exists.1 ((h.pres t).2 ht)
  have ht1 := terms_addTermToRec o k n rid t
  simp only [Onto.annotate, get_eq_getT o t h.small, htm]
  refine link_post anc ex k rid rank hc _ _ t (by simp only [Onto.linkFuel, ht1]; exact hfuel t) ht
    (by rw [ht1]; exact h.lstate k) ?_
  rw [ht1]; intro x _ hx; exact h.upclosed rank hc k x rid hx

theorem AnnInv.of_linkPost {o o' : Onto} (h : AnnInv anc ex o) {k : Kind} {rid t : Nat} {n : List Char}
    (ht : ex t) (p : LinkPost anc ex k rid t (o.addTermToRec k n rid t) o') : AnnInv anc ex o' := by
  have ht1 := terms_addTermToRec o k n rid t
  have hne : ∀ k', k' ≠ k → ∀ j, annOf k' o'.terms j = annOf k' o.terms j := by
    intro k' hk j; rw [p.upd.ann_ne hk, ht1]
  have hA : ∀ k' x r, r ∈ annOf k' o'.terms x ↔
      r ∈ annOf k' o.terms x ∨ (k' = k ∧ r = rid ∧ Up anc t x) := by
    intro k' x r
    by_cases hk : k' = k
    · rw [hk, p.frame x r, ht1, and_iff_right rfl]
    · rw [hne k' hk, or_iff_left fun e => hk e.1]
  refine ⟨p.state.ancF, p.state.pres, p.state.small, ?_, ?_, ?_, ?_⟩
  · intro k' j
    by_cases hk : k' = k
    · subst hk; exact p.state.sortedA j
    · rw [hne k' hk]; exact h.sorted k' j
  · -- links and direct terms have both gained one member
    intro k' x r
    simp only [hA, h.linked k' x r, hposOf_of_rest p.rest, mem_hposOf_addTermToRec, or_and_right,
      exists_or, and_assoc, exists_and_left, exists_eq_left]
  · intro k' r d hd
    rcases (mem_hposOf_addTermToRec o k k' n rid t r d).1 (hposOf_of_rest p.rest k' r ▸ hd) with hd | ⟨_, _, rfl⟩
    · exact h.recTerms k' r d hd
    · exact ht
  · intro k' r
    rw [hposOf_of_rest p.rest, hposOf_addTermToRec]
    split
    · exact sorted_insert _ _ (h.hposSorted k rid)
    · exact h.hposSorted k' r

variable (anc) (ex)

/-- a successful or failing `annotate_*` call keeps the invariant; failing calls change nothing -/
theorem annInv_annotate (rank : Nat → Nat) (hc : AncClosure anc ex rank) (o : Onto) (k : Kind)
    (rid : Nat) (n : List Char) (t : Nat) (h : AnnInv anc ex o)
    (hfuel : ∀ j, rank j < o.terms.length + 2) :
    (o.annotate k rid n t = .err .doesNotExist ∧ ¬ ex t) ∨
    (ex t ∧ ∃ o', o.annotate k rid n t = .ok o' ∧ AnnInv anc ex o' ∧
      o'.terms.length = o.terms.length ∧
      (∀ k', o'.recs k' = (o.addTermToRec k n rid t).recs k') ∧
      (∀ k', k' ≠ k → ∀ j, annOf k' o'.terms j = annOf k' o.terms j)) := by
  by_cases ht : ex t
  · obtain ⟨o', hok, p⟩ := h.annotate_present rank hc hfuel k rid n ht
    have ht1 := terms_addTermToRec o k n rid t
    refine Or.inr ⟨ht, o', hok, h.of_linkPost ht p, ?_, recs_of_rest p.rest, ?_⟩
    · rw [← ht1]; exact length_eq_of_map_eq p.upd.1
    · intro k' hk j; rw [p.upd.ann_ne hk, ht1]
  · exact Or.inl ⟨h.annotate_absent k rid n ht, ht⟩

end

theorem runA_append (a b : List AOp) (o : Onto) : runA (a ++ b) o = runA b (runA a o) :=
  List.foldl_append

theorem annotate_map_eq {o o' : Onto} {k : Kind} {rid t : Nat} {n : List Char}
    (h : o.annotate k rid n t = .ok o') :
    o' = { o.addTermToRec k n rid t with terms := o'.terms } ∧
    ∀ {α : Type} (π : Term → α), (∀ t v, π (t.setAnn k v) = π t) → o'.terms.map π = o.terms.map π := by
  unfold Onto.annotate at h
  split at h
  · cases h
  · exact ⟨(link_map_eq k rid (fun _ => ()) (fun _ _ => rfl) _ _ _ _ h).1, fun π hπ => by
      rw [(link_map_eq k rid π hπ _ _ _ _ h).2, terms_addTermToRec]⟩

theorem applyA_annotate_ne (o : Onto) {k k' : Kind} (hk : k' ≠ k) (rid : Nat) (n : List Char) (t : Nat) :
    (∀ j, annOf k' (applyA o (.annotate k rid n t)).terms j = annOf k' o.terms j) ∧
    (applyA o (.annotate k rid n t)).recs k' = o.recs k' := by
  simp only [applyA]
  split
  · rename_i o' h
    obtain ⟨e, f⟩ := annotate_map_eq h
    refine ⟨fun j => ?_, ?_⟩
    · unfold annOf
      rw [getT_map_congr (·.ann k') (f _ fun t v => by rw [setAnn_id, setAnn_ann_ne t k v k' hk])]
    · rw [recs_of_rest e, Onto.addTermToRec, recs_setRecs_ne _ _ _ _ hk, Onto.addRec,
        recs_setRecs_ne _ _ _ _ hk]
  · exact ⟨fun _ => rfl, rfl⟩

/-- `o'` differs from `o` in records and in annotation sets of terms only: what the annotation phase
may change. `terms` says: same slots in the same order, seen through any projection `π` that no
`setAnn` affects. -/
structure AnnFrame (o o' : Onto) : Prop where
  terms : ∀ {α : Type} (π : Term → α), (∀ t k v, π (t.setAnn k v) = π t) → o'.terms.map π = o.terms.map π
  rest : o' = { o with terms := o'.terms, genes := o'.genes, omim := o'.omim, orpha := o'.orpha }

theorem AnnFrame.refl (o : Onto) : AnnFrame o o := ⟨fun _ _ => rfl, rfl⟩

theorem AnnFrame.trans {a b c : Onto} (h1 : AnnFrame a b) (h2 : AnnFrame b c) : AnnFrame a c :=
  ⟨fun π hπ => (h2.terms π hπ).trans (h1.terms π hπ), by rw [h2.rest, h1.rest]⟩

theorem AnnFrame.ids {o o' : Onto} (h : AnnFrame o o') : o'.terms.map (·.id) = o.terms.map (·.id) :=
  h.terms _ fun t k v => setAnn_id t k v

theorem AnnFrame.length {o o' : Onto} (h : AnnFrame o o') : o'.terms.length = o.terms.length :=
  length_eq_of_map_eq h.ids

theorem AnnFrame.lookup {o o' : Onto} (h : AnnFrame o o') {α : Type} (π : Term → α)
    (hπ : ∀ t k v, π (t.setAnn k v) = π t) (j : Nat) :
    (getT o'.terms j).map π = (getT o.terms j).map π :=
  getT_map_congr π (h.terms _ fun t k v => by rw [setAnn_id, hπ]) j

theorem applyA_frame (o : Onto) (op : AOp) : AnnFrame o (applyA o op) := by
  cases op with
  | addRec k n i => exact ⟨fun _ _ => congrArg _ (terms_setRecs ..), by cases k <;> rfl⟩
  | annotate k rid n t =>
    simp only [applyA]
    split
    · rename_i o' h
      obtain ⟨e, f⟩ := annotate_map_eq h
      -- `addTermToRec` as ONE `setRecs`: `rfl` then compares two updates of `o`, not four nested ones
      exact ⟨fun π hπ => f π fun t v => hπ t k v, by
        rw [e, Onto.addTermToRec, Onto.addRec, setRecs_setRecs]; cases k <;> rfl⟩
    · exact AnnFrame.refl o

theorem runA_frame (ops : List AOp) (o : Onto) : AnnFrame o (runA ops o) := by
  induction ops generalizing o with
  | nil => exact AnnFrame.refl o
  | cons op ops ih => exact (applyA_frame o op).trans (ih _)

theorem Binary.runA_ids (ops : List AOp) : ∀ o : Onto, (runA ops o).terms.map (·.id) = o.terms.map (·.id) :=
  fun o => (runA_frame ops o).ids

section
variable {anc : Nat → List Nat} {ex : Nat → Prop} {rank : Nat → Nat} {o : Onto}

/-- a builder state of the annotation phase: the invariant, and fuel for every walk of `link` -/
structure AnnState (anc : Nat → List Nat) (ex : Nat → Prop) (rank : Nat → Nat) (o : Onto) : Prop where
  closure : AncClosure anc ex rank
  inv : AnnInv anc ex o
  fuel : ∀ j, rank j < o.terms.length + 2

theorem AnnInv.applyA_absent (h : AnnInv anc ex o) (k : Kind) (rid : Nat) (n : List Char) {t : Nat}
    (ht : ¬ ex t) : applyA o (.annotate k rid n t) = o := by
  simp only [applyA, h.annotate_absent k rid n ht]

theorem AnnState.applyA_present (S : AnnState anc ex rank o) (k : Kind) (rid : Nat) (n : List Char)
    {t : Nat} (ht : ex t) :
    o.annotate k rid n t = .ok (applyA o (.annotate k rid n t)) ∧
    LinkPost anc ex k rid t (o.addTermToRec k n rid t) (applyA o (.annotate k rid n t)) := by
  obtain ⟨o', hok, p⟩ := S.inv.annotate_present rank S.closure S.fuel k rid n ht
  simp only [applyA, hok]; exact ⟨trivial, p⟩

theorem AnnState.annotateSt_spec (S : AnnState anc ex rank o) (k : Kind) (rid : Nat) (n : List Char)
    (t : Nat) :
    (ex t ∧ o.annotateSt k rid n t = (applyA o (.annotate k rid n t), .ok ())) ∨
    (¬ ex t ∧ o.annotateSt k rid n t = (o, .err .doesNotExist)) := by
  by_cases ht : ex t
  · exact Or.inl ⟨ht, annotateSt_of_ok (S.applyA_present k rid n ht).1⟩
  · refine Or.inr ⟨ht, ?_⟩
    rw [Onto.annotateSt, Option.not_isSome_iff_eq_none.1 (mt (S.inv.get_isSome_iff t).1 ht)]

theorem AnnState.step (S : AnnState anc ex rank o) (op : AOp) : AnnState anc ex rank (applyA o op) := by
  refine ⟨S.closure, ?_, ?_⟩
  · cases op with
    | addRec k n i => exact annInv_addRec o k n i S.inv
    | annotate k rid n t =>
      by_cases ht : ex t
      · exact S.inv.of_linkPost ht (S.applyA_present k rid n ht).2
      · rw [S.inv.applyA_absent k rid n ht]; exact S.inv
  · rw [(applyA_frame o op).length]; exact S.fuel

theorem AnnState.run (S : AnnState anc ex rank o) (ops : List AOp) : AnnState anc ex rank (runA ops o) := by
  induction ops generalizing o with
  | nil => exact S
  | cons op ops ih => exact ih (S.step op)

end
end Hpo
