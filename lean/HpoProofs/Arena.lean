import HpoModel.Builder
import HpoProofs.Group
/-! The lemmas of `HpoModel/Core.lean`, in its order, and of `buildWithDefaults` (`HpoModel/Builder.lean`).
The term arena and the record maps are finite maps keyed by id: a lookup is `List.find?` on the id and an
update is `List.map`; what core does not have about such lists is proved once for any key (`find?_key_*`)
and instantiated for terms and records. -/
namespace Hpo

namespace Res
variable {α β γ : Type}

@[simp] theorem bind_ok (a : α) (f : α → Res β) : (ok a).bind f = f a := rfl
@[simp] theorem bind_err (e : Err) (f : α → Res β) : (err e : Res α).bind f = err e := rfl
@[simp] theorem bind_panic (f : α → Res β) : (panic : Res α).bind f = panic := rfl
@[simp] theorem bind_diverge (f : α → Res β) : (diverge : Res α).bind f = diverge := rfl

theorem bind_eq_ok {r : Res α} {f : α → Res β} {b : β} :
    r.bind f = ok b ↔ ∃ a, r = ok a ∧ f a = ok b := by
  cases r <;> simp

theorem isOk_bind_false {r : Res α} (k : α → Res β) (h : r.isOk = false) : (r.bind k).isOk = false := by
  cases r <;> first | rfl | cases h

theorem bind_assoc (r : Res α) (f : α → Res β) (g : β → Res γ) :
    (r.bind f).bind g = r.bind fun a => (f a).bind g := by
  cases r <;> rfl

theorem bind_congr {r : Res α} {f g : α → Res β} (h : ∀ a, r = .ok a → f a = g a) :
    r.bind f = r.bind g := by
  cases r with
  | ok a => exact h a rfl
  | err _ => rfl
  | panic => rfl
  | diverge => rfl

/-- from "the call returns some `r` with `P r`" to "it returns `r'` iff `P r'`", when `P` determines the result -/
theorem ok_iff_of_unique {x : Res α} {P : α → Prop} (hP : ∀ r r', P r → P r' → r = r')
    {r : α} (hr : x = .ok r) (hs : P r) (r' : α) : x = .ok r' ↔ P r' :=
  ⟨fun h => by rw [hr] at h; cases h; exact hs, fun h => by rw [hr, hP r r' hs h]⟩

end Res

/-- how two lookups (`getT`, `getR`, `find?`) are compared: is the key present in both, then the two entries -/
theorem lookup_ext {α : Type} {a b : Option α} (hs : a.isSome ↔ b.isSome)
    (h : ∀ x y, a = some x → b = some y → x = y) : a = b := by
  cases a with
  | none => cases b with
    | none => rfl
    | some y => exact nomatch hs.2 rfl
  | some x => cases b with
    | none => exact nomatch hs.1 rfl
    | some y => rw [h x y rfl rfl]

/-- `lookup_ext` against `x.map g`; the conclusion is the hypothesis `h` of `field_congr` -/
theorem option_eq_map {α β : Type} {x : Option α} {y : Option β} {g : α → β}
    (hs : y.isSome = x.isSome) (he : ∀ a b, x = some a → y = some b → b = g a) : y = x.map g :=
  lookup_ext (by rw [hs, Option.isSome_map]) fun b c hy hx => by
    obtain ⟨a, ha, rfl⟩ := Option.map_eq_some_iff.1 hx
    exact he a b ha hy

/-! ### field setters -/

section
variable (t : Term) (k : Kind) (v : List Nat)
theorem setAnn_ann : (t.setAnn k v).ann k = v := by cases k <;> rfl
theorem setAnn_ann_ne (k' : Kind) (h : k' ≠ k) : (t.setAnn k v).ann k' = t.ann k' := by
  cases k <;> cases k' <;> first | rfl | exact absurd rfl h
theorem setAnn_id : (t.setAnn k v).id = t.id := by cases k <;> rfl
theorem setAnn_allParents : (t.setAnn k v).allParents = t.allParents := by cases k <;> rfl
theorem setAnn_self : t.setAnn k (t.ann k) = t := by cases k <;> rfl
theorem setAnn_setAnn (w : List Nat) : (t.setAnn k v).setAnn k w = t.setAnn k w := by cases k <;> rfl
end

theorem setAnn_of_erase {k : Kind} {t t' : Term} (h : t'.setAnn k [] = t.setAnn k []) :
    t' = t.setAnn k (t'.ann k) := by
  rw [← setAnn_setAnn t k [] (t'.ann k), ← h, setAnn_setAnn, setAnn_self]

theorem setIc_ann (t : Term) (k k' : Kind) (v : Nat × Nat) : (t.setIc k v).ann k' = t.ann k' := by
  cases k <;> cases k' <;> rfl

theorem setIc_ic (t : Term) (k : Kind) (v : Nat × Nat) : (t.setIc k v).ic k = v := by
  cases k <;> rfl

theorem setIc_ic_ne (t : Term) (k k' : Kind) (v : Nat × Nat) (h : k' ≠ k) :
    (t.setIc k v).ic k' = t.ic k' := by
  cases k <;> cases k' <;> first | rfl | exact absurd rfl h

theorem setIc_id (t : Term) (k : Kind) (v : Nat × Nat) : (t.setIc k v).id = t.id := by
  cases k <;> rfl

section
variable (o : Onto) (k : Kind) (v : List Rec)
theorem recs_setRecs : (o.setRecs k v).recs k = v := by cases k <;> rfl
theorem recs_setRecs_ne (k' : Kind) (h : k' ≠ k) : (o.setRecs k v).recs k' = o.recs k' := by
  cases k <;> cases k' <;> first | rfl | exact absurd rfl h
theorem terms_setRecs : (o.setRecs k v).terms = o.terms := by cases k <;> rfl
theorem get_setRecs (i : Nat) : (o.setRecs k v).get i = o.get i := by cases k <;> rfl
theorem setRecs_setRecs (w : List Rec) : (o.setRecs k v).setRecs k w = o.setRecs k w := by
  cases k <;> rfl
end

/-- `h` has the shape `Onto.rest_of_outside` yields; a step that writes `terms` alone yields
`o' = { o with terms := o'.terms }` (`calcIc_rest`, `link_rest`, the `rest` fields), the case `s := o.slot0` -/
theorem recs_of_rest {o o' : Onto} {ts : List Term} {s : Term}
    (h : o' = { o with terms := ts, slot0 := s }) (k : Kind) : o'.recs k = o.recs k := by
  subst h; cases k <;> rfl

/-! ### lists keyed by a field -/

section Keyed
variable {α : Type} {key : α → Nat}

theorem find?_key_isSome (l : List α) (j : Nat) :
    (l.find? (fun a => key a = j)).isSome ↔ j ∈ l.map key := by
  rw [List.find?_isSome, List.mem_map]
  simp only [decide_eq_true_eq]

theorem find?_key_of_mem {l : List α} (hnd : (l.map key).Nodup) {a : α} (ha : a ∈ l) :
    l.find? (fun x => key x = key a) = some a := by
  induction l with
  | nil => cases ha
  | cons b l ih =>
    rw [List.map_cons, List.nodup_cons] at hnd
    rcases List.mem_cons.1 ha with rfl | ha
    · simp
    · have : key b ≠ key a := fun e => hnd.1 (e ▸ List.mem_map_of_mem ha)
      simp [this, ih hnd.2 ha]

theorem find?_key_perm {l l' : List α} (hp : l.Perm l') (hnd : (l.map key).Nodup) (j : Nat) :
    l.find? (fun a => key a = j) = l'.find? (fun a => key a = j) := by
  cases h : l.find? (fun a => key a = j) with
  | none =>
    rw [List.find?_eq_none] at h
    exact (List.find?_eq_none.2 fun a ha => h a (hp.mem_iff.2 ha)).symm
  | some a =>
    have hj : key a = j := by simpa using List.find?_some h
    rw [← hj, find?_key_of_mem ((hp.map key).nodup_iff.1 hnd)
      (hp.mem_iff.1 (List.mem_of_find?_eq_some h))]

theorem length_eq_of_map_eq {β : Type} {f : α → β} {l l' : List α} (h : l'.map f = l.map f) :
    l'.length = l.length := by
  rw [← List.length_map (f := f), h, List.length_map]

theorem eq_of_find?_key {l l' : List α} (hk : l.map key = l'.map key) (hnd : (l.map key).Nodup)
    (h : ∀ j, l.find? (fun a => key a = j) = l'.find? (fun a => key a = j)) : l = l' := by
  -- position by position: the two elements have the same key, and each is what its lookup returns
  refine List.ext_getElem (length_eq_of_map_eq hk) fun n h1 h2 => ?_
  have k : key l[n] = key l'[n] := by
    have := List.getElem_of_eq hk (by simpa using h1)
    rwa [List.getElem_map, List.getElem_map] at this
  have e := h (key l[n])
  rw [find?_key_of_mem hnd (List.getElem_mem h1), k,
    find?_key_of_mem (hk ▸ hnd) (List.getElem_mem h2)] at e
  exact Option.some.inj e

theorem nodup_key_snoc {l : List α} (h : (l.map key).Nodup) {x : α} (hx : key x ∉ l.map key) :
    ((l ++ [x]).map key).Nodup := by
  rw [List.map_append, List.nodup_append]
  exact ⟨h, List.pairwise_singleton _ _, fun a ha b hb e => hx (List.mem_singleton.1 hb ▸ e ▸ ha)⟩

theorem find?_key_map (l : List α) {f : α → α} (hf : ∀ a, key (f a) = key a) (j : Nat) :
    (l.map f).find? (fun a => key a = j) = (l.find? (fun a => key a = j)).map f := by
  rw [List.find?_map]; simp only [Function.comp_def, hf]

end Keyed

/-! ### terms -/

theorem getT_eq_find? (ts : List Term) (i : Nat) : getT ts i = ts.find? (fun t => t.id = i) := by
  induction ts with
  | nil => rfl
  | cons t ts ih => by_cases h : t.id = i <;> simp [getT, h, ih]

theorem modT_eq_map (ts : List Term) (i : Nat) (f : Term → Term) :
    modT ts i f = ts.map (fun t => if t.id = i then f t else t) := by
  induction ts with
  | nil => rfl
  | cons t ts ih => rw [modT, ih, List.map_cons]

theorem getT_id {ts : List Term} {j : Nat} {t : Term} (h : getT ts j = some t) : t.id = j := by
  rw [getT_eq_find?] at h; simpa using List.find?_some h

theorem getT_mem {ts : List Term} {j : Nat} {t : Term} (h : getT ts j = some t) : t ∈ ts := by
  rw [getT_eq_find?] at h; exact List.mem_of_find?_eq_some h

theorem getT_isSome_iff (ts : List Term) (j : Nat) : (getT ts j).isSome ↔ j ∈ ts.map (·.id) := by
  rw [getT_eq_find?]; exact find?_key_isSome ts j

theorem getT_none_iff (ts : List Term) (j : Nat) : getT ts j = none ↔ j ∉ ts.map (·.id) := by
  rw [← getT_isSome_iff]; cases getT ts j <;> simp

theorem getT_of_mem_nodup {ts : List Term} (h : (ts.map (·.id)).Nodup) {t : Term} (ht : t ∈ ts) :
    getT ts t.id = some t := by
  rw [getT_eq_find?]; exact find?_key_of_mem h ht

theorem getT_perm {ts ts' : List Term} (hp : ts.Perm ts') (hnd : (ts.map (·.id)).Nodup) (j : Nat) :
    getT ts j = getT ts' j := by
  rw [getT_eq_find?, getT_eq_find?]; exact find?_key_perm hp hnd j

theorem list_eq_of_getT (ts ts' : List Term) (hid : ts.map (·.id) = ts'.map (·.id))
    (hnd : (ts.map (·.id)).Nodup) (h : ∀ j, getT ts j = getT ts' j) : ts = ts' :=
  eq_of_find?_key hid hnd fun j => by rw [← getT_eq_find?, ← getT_eq_find?]; exact h j

theorem getT_append (ts us : List Term) (j : Nat) : getT (ts ++ us) j = (getT ts j).or (getT us j) := by
  simp only [getT_eq_find?, List.find?_append]

theorem getT_snoc (ts : List Term) (t : Term) (j : Nat) :
    getT (ts ++ [t]) j = (getT ts j).or (if t.id = j then some t else none) :=
  getT_append ts [t] j

theorem getT_map (ts : List Term) (f : Term → Term) (hf : ∀ t, (f t).id = t.id) (j : Nat) :
    getT (ts.map f) j = (getT ts j).map f := by
  simp only [getT_eq_find?]; exact find?_key_map ts hf j

/-- a frame statement about whole arenas (`ts'` and `ts` agree on the id and on `π` of every entry) read at
one id; `congrArg (·.getD [])` makes it an equation between `parentsOf` … `annOf` -/
theorem getT_map_congr {α : Type} (π : Term → α) {ts ts' : List Term}
    (h : ts'.map (fun t => (t.id, π t)) = ts.map (fun t => (t.id, π t))) (j : Nat) :
    (getT ts' j).map π = (getT ts j).map π := by
  have key : ∀ ts : List Term, (getT ts j).map (fun t => (t.id, π t)) =
      (ts.map fun t => (t.id, π t)).find? (fun x => x.1 = j) := fun ts => by
    rw [getT_eq_find?, List.find?_map]; rfl
  have e := congrArg (Option.map Prod.snd) ((key ts').trans ((congrArg _ h).trans (key ts).symm))
  rwa [Option.map_map, Option.map_map] at e

theorem getT_modT (ts : List Term) (i j : Nat) (f : Term → Term) (hf : ∀ t, (f t).id = t.id) :
    getT (modT ts i f) j = (getT ts j).map (if j = i then f else id) := by
  rw [modT_eq_map, getT_map ts _ (fun t => by split <;> simp [hf]) j]
  cases h : getT ts j with
  | none => rfl
  | some t => rw [Option.map_some, Option.map_some, getT_id h]; split <;> rfl

theorem getT_modT_self (ts : List Term) (i : Nat) (f : Term → Term) (hf : ∀ t, (f t).id = t.id) :
    getT (modT ts i f) i = (getT ts i).map f := by
  rw [getT_modT ts i i f hf, if_pos rfl]

theorem getT_modT_ne (ts : List Term) {i j : Nat} (f : Term → Term) (hf : ∀ t, (f t).id = t.id)
    (h : j ≠ i) : getT (modT ts i f) j = getT ts j := by
  rw [getT_modT ts i j f hf, if_neg h, Option.map_id_apply]

theorem modT_map (ts : List Term) (i : Nat) {f : Term → Term} {γ : Type} {c : Term → γ}
    (hf : ∀ t, c (f t) = c t) : (modT ts i f).map c = ts.map c := by
  rw [modT_eq_map, List.map_map]
  exact List.map_congr_left fun t _ => by simp only [Function.comp_apply]; split <;> simp [hf]

theorem modT_ids (ts : List Term) (i : Nat) (f : Term → Term) (hf : ∀ t, (f t).id = t.id) :
    (modT ts i f).map (·.id) = ts.map (·.id) :=
  modT_map ts i hf

theorem modT_length (ts : List Term) (i : Nat) (f : Term → Term) : (modT ts i f).length = ts.length := by
  rw [modT_eq_map, List.length_map]

theorem arenaInsert_of_some {ts : List Term} {t x : Term} (hs : t.id < maxId)
    (h : getT ts t.id = some x) : arenaInsert ts t = some ts := by
  rw [arenaInsert, if_neg (Nat.not_le.2 hs), h]

theorem arenaInsert_of_none {ts : List Term} {t : Term} (hs : t.id < maxId)
    (h : getT ts t.id = none) : arenaInsert ts t = some (ts ++ [t]) := by
  rw [arenaInsert, if_neg (Nat.not_le.2 hs), h]

theorem arenaInsert_eq_none {ts : List Term} {x : Term} : arenaInsert ts x = none ↔ maxId ≤ x.id := by
  by_cases h : maxId ≤ x.id
  · rw [arenaInsert, if_pos h]; exact iff_of_true rfl h
  · rw [arenaInsert, if_neg h]; cases getT ts x.id <;> exact iff_of_false nofun h

theorem arenaInsert_eq_some {ts ts' : List Term} {x : Term} (h : arenaInsert ts x = some ts') :
    x.id < maxId ∧ ((getT ts x.id).isSome ∧ ts' = ts ∨ getT ts x.id = none ∧ ts' = ts ++ [x]) := by
  unfold arenaInsert at h
  split at h
  · cases h
  · refine ⟨Nat.lt_of_not_le ‹_›, ?_⟩
    split at h <;> cases h
    · rename_i t ht; exact Or.inl ⟨by rw [ht]; rfl, rfl⟩
    · rename_i hn; exact Or.inr ⟨hn, rfl⟩

theorem getT_arenaInsert {ts ts' : List Term} {x : Term} (h : arenaInsert ts x = some ts') (j : Nat) :
    getT ts' j = (getT ts j).or (if x.id = j then some x else none) := by
  rcases (arenaInsert_eq_some h).2 with ⟨hs, rfl⟩ | ⟨_, rfl⟩
  · by_cases hj : x.id = j
    · rw [← hj, Option.or_of_isSome hs]
    · rw [if_neg hj, Option.or_none]
  · exact getT_snoc ts x j

/-! ### the lookups of `Onto` -/

theorem get_eq_getT_of_lt (o : Onto) {i : Nat} (h : i < maxId) : o.get i = getT o.terms i := by
  rw [Onto.get, arenaGet, if_neg (Nat.not_le.2 h)]

theorem get_eq_some {o : Onto} {i : Nat} {t : Term} :
    o.get i = some t ↔ i < maxId ∧ getT o.terms i = some t := by
  by_cases h : i < maxId
  · rw [get_eq_getT_of_lt o h, and_iff_right h]
  · rw [Onto.get, arenaGet, if_pos (Nat.not_lt.1 h)]
    exact ⟨nofun, fun h' => absurd h'.1 h⟩

theorem Onto.get_id {o : Onto} {i : Nat} {t : Term} (h : o.get i = some t) : t.id = i :=
  getT_id (get_eq_some.1 h).2

theorem Onto.get_mem {o : Onto} {i : Nat} {t : Term} (h : o.get i = some t) : t ∈ o.terms :=
  getT_mem (get_eq_some.1 h).2

theorem Onto.get_eq_none {o : Onto} {i : Nat} (h : i < maxId) : o.get i = none ↔ i ∉ o.ids := by
  rw [get_eq_getT_of_lt o h, getT_none_iff, Onto.ids]

theorem get_eq_getT (o : Onto) (j : Nat) (hs : ∀ j, (getT o.terms j).isSome → j < maxId) :
    o.get j = getT o.terms j := by
  cases h : getT o.terms j with
  | none => cases h' : o.get j with
    | none => rfl
    | some t => rw [(get_eq_some.1 h').2] at h; cases h
  | some t => exact get_eq_some.2 ⟨hs j (by simp [h]), h⟩

theorem getUnchecked_present {o : Onto} {i : Nat} {t : Term} (h : getT o.terms i = some t)
    (hs : i < maxId) : o.getUnchecked i = some t := by
  simp [Onto.getUnchecked, h, Nat.not_le.2 hs]

theorem modUnchecked_present {o : Onto} {i : Nat} {t : Term} (f : Term → Term)
    (h : getT o.terms i = some t) (hs : i < maxId) :
    o.modUnchecked i f = some { o with terms := modT o.terms i f } := by
  simp [Onto.modUnchecked, h, Nat.not_le.2 hs]

theorem modUnchecked_absent {o : Onto} {i : Nat} (f : Term → Term) (h : getT o.terms i = none)
    (hs : i < maxId) : o.modUnchecked i f = some { o with slot0 := f o.slot0 } := by
  simp [Onto.modUnchecked, h, Nat.not_le.2 hs]

/-! ### records -/

theorem rec_ext (a b : Rec) (h1 : a.id = b.id) (h2 : a.name = b.name) (h3 : a.hpos = b.hpos) : a = b := by
  cases a; cases b; cases h1; cases h2; cases h3; rfl

theorem onto_ext (a b : Onto) (h1 : a.terms = b.terms) (h2 : a.slot0 = b.slot0)
    (h3 : ∀ k, a.recs k = b.recs k) (h4 : a.version = b.version)
    (h5 : a.categories = b.categories) (h6 : a.modifier = b.modifier) : a = b := by
  have g := h3 .gene; have om := h3 .omim; have orp := h3 .orpha
  cases a; cases b
  simp only [Onto.recs] at g om orp
  simp_all

theorem getR_eq_find? (rs : List Rec) (i : Nat) : getR rs i = rs.find? (fun r => r.id = i) := by
  induction rs with
  | nil => rfl
  | cons r rs ih => by_cases h : r.id = i <;> simp [getR, h, ih]

theorem modR_eq_map (rs : List Rec) (i : Nat) (f : Rec → Rec) :
    modR rs i f = rs.map (fun r => if r.id = i then f r else r) := by
  induction rs with
  | nil => rfl
  | cons r rs ih => rw [modR, ih, List.map_cons]

theorem getR_id {rs : List Rec} {j : Nat} {r : Rec} (h : getR rs j = some r) : r.id = j := by
  rw [getR_eq_find?] at h; simpa using List.find?_some h

theorem getR_mem {rs : List Rec} {j : Nat} {r : Rec} (h : getR rs j = some r) : r ∈ rs := by
  rw [getR_eq_find?] at h; exact List.mem_of_find?_eq_some h

theorem getR_isSome_iff (rs : List Rec) (j : Nat) : (getR rs j).isSome ↔ j ∈ rs.map (·.id) := by
  rw [getR_eq_find?]; exact find?_key_isSome rs j

theorem getR_none_iff (rs : List Rec) (j : Nat) : getR rs j = none ↔ j ∉ rs.map (·.id) := by
  rw [← getR_isSome_iff]; cases getR rs j <;> simp

/-- distinct ids that all resolve are at most as many as there are records -/
theorem length_le_of_resolves {l : List Nat} {rs : List Rec} (hnd : l.Nodup)
    (h : ∀ r ∈ l, (getR rs r).isSome) : l.length ≤ rs.length := by
  have := List.Nodup.length_le_of_subset hnd fun r hr => (getR_isSome_iff rs r).1 (h r hr)
  rwa [List.length_map] at this

theorem getR_of_mem_nodup {rs : List Rec} (h : (rs.map (·.id)).Nodup) {r : Rec} (hr : r ∈ rs) :
    getR rs r.id = some r := by
  rw [getR_eq_find?]; exact find?_key_of_mem h hr

theorem eq_of_nodup_map_id {rs : List Rec} (h : (rs.map (·.id)).Nodup) {a b : Rec} (ha : a ∈ rs) (hb : b ∈ rs)
    (he : a.id = b.id) : a = b :=
  Option.some.inj ((getR_of_mem_nodup h ha).symm.trans (he ▸ getR_of_mem_nodup h hb))

theorem getR_perm {rs rs' : List Rec} (hp : rs.Perm rs') (hnd : (rs.map (·.id)).Nodup) (j : Nat) :
    getR rs j = getR rs' j := by
  rw [getR_eq_find?, getR_eq_find?]; exact find?_key_perm hp hnd j

theorem list_eq_of_getR (rs rs' : List Rec) (hid : rs.map (·.id) = rs'.map (·.id))
    (hnd : (rs.map (·.id)).Nodup) (h : ∀ j, getR rs j = getR rs' j) : rs = rs' :=
  eq_of_find?_key hid hnd fun j => by rw [← getR_eq_find?, ← getR_eq_find?]; exact h j

theorem getR_append (rs us : List Rec) (j : Nat) : getR (rs ++ us) j = (getR rs j).or (getR us j) := by
  simp only [getR_eq_find?, List.find?_append]

theorem getR_snoc (rs : List Rec) (r : Rec) (j : Nat) :
    getR (rs ++ [r]) j = (getR rs j).or (if r.id = j then some r else none) :=
  getR_append rs [r] j

theorem getR_map (rs : List Rec) (f : Rec → Rec) (hf : ∀ r, (f r).id = r.id) (j : Nat) :
    getR (rs.map f) j = (getR rs j).map f := by
  simp only [getR_eq_find?]; exact find?_key_map rs hf j

theorem getR_modR (rs : List Rec) (i j : Nat) (f : Rec → Rec) (hf : ∀ r, (f r).id = r.id) :
    getR (modR rs i f) j = (getR rs j).map (if j = i then f else id) := by
  rw [modR_eq_map, getR_map rs _ (fun r => by split <;> simp [hf]) j]
  cases h : getR rs j with
  | none => rfl
  | some r => rw [Option.map_some, Option.map_some, getR_id h]; split <;> rfl

theorem modR_ids (rs : List Rec) (i : Nat) (f : Rec → Rec) (hf : ∀ r, (f r).id = r.id) :
    (modR rs i f).map (·.id) = rs.map (·.id) := by
  rw [modR_eq_map, List.map_map]
  refine List.map_congr_left fun r _ => ?_
  rw [Function.comp_apply]
  split
  · exact hf r
  · rfl

theorem modR_append (rs rs' : List Rec) (i : Nat) (f : Rec → Rec) :
    modR (rs ++ rs') i f = modR rs i f ++ modR rs' i f := by
  simp only [modR_eq_map, List.map_append]

theorem modR_of_none (rs : List Rec) (i : Nat) (f : Rec → Rec) (h : getR rs i = none) :
    modR rs i f = rs := by
  rw [getR_eq_find?, List.find?_eq_none] at h
  rw [modR_eq_map]
  exact (List.map_congr_left fun r hr => if_neg (by simpa using h r hr)).trans (List.map_id' rs)

theorem modR_snoc_of_none (rs : List Rec) (x : Rec) (f : Rec → Rec) (h : getR rs x.id = none) :
    modR (rs ++ [x]) x.id f = rs ++ [f x] := by
  rw [modR_append, modR_of_none rs _ f h, modR, if_pos rfl, modR]

theorem addR_of_some {rs : List Rec} {r x : Rec} (h : getR rs r.id = some x) : addR rs r = rs := by
  rw [addR, h]

theorem addR_of_none {rs : List Rec} {r : Rec} (h : getR rs r.id = none) : addR rs r = rs ++ [r] := by
  rw [addR, h]

theorem putR_of_some {rs : List Rec} {r x : Rec} (h : getR rs r.id = some x) :
    putR rs r = modR rs r.id (fun _ => r) := by
  rw [putR, h]

theorem putR_of_none {rs : List Rec} {r : Rec} (h : getR rs r.id = none) : putR rs r = rs ++ [r] := by
  rw [putR, h]

theorem addR_ids_nodup (rs : List Rec) (r : Rec) (h : (rs.map (·.id)).Nodup) :
    ((addR rs r).map (·.id)).Nodup := by
  cases hg : getR rs r.id with
  | some x => rw [addR_of_some hg]; exact h
  | none => rw [addR_of_none hg]; exact nodup_key_snoc h ((getR_none_iff rs r.id).1 hg)

theorem getR_addR (rs : List Rec) (r : Rec) (j : Nat) :
    getR (addR rs r) j = (getR rs j).or (if r.id = j then some r else none) := by
  cases hx : getR rs r.id with
  | some x =>
    rw [addR_of_some hx]
    by_cases hj : r.id = j
    · rw [← hj, hx]; rfl
    · simp [hj]
  | none => rw [addR_of_none hx]; exact getR_snoc rs r j

/-! ### `build_with_defaults` -/

theorem buildWithDefaults_eq (o : Onto) : o.buildWithDefaults =
    match o.get 1, o.get Onto.phenotypeId with
    | some root, some ph => .ok { o with
        categories := Group.ofList (root.children.filter (· ≠ Onto.phenotypeId) ++ ph.children),
        modifier := Group.ofList (root.children.filter (· ≠ Onto.phenotypeId)) }
    | _, _ => .err .doesNotExist := by
  have e : ∀ i, o.buildMinimal.get i = o.get i := fun _ => rfl
  simp only [Onto.buildWithDefaults, Onto.defaultCategories, Onto.defaultModifier, e]
  cases o.get 1 with
  | none => rfl
  | some root => cases o.get Onto.phenotypeId <;> rfl

theorem buildWithDefaults_rest (r d : Onto) (h : r.buildWithDefaults = .ok d) :
    d = { r with categories := d.categories, modifier := d.modifier } := by
  rw [buildWithDefaults_eq] at h
  split at h <;> cases h
  rfl

/-! ### fields of the term with a given id, `[]` when absent -/

def parentsOf (ts : List Term) (i : Nat) : List Nat := ((getT ts i).map (·.parents)).getD []
def allOf (ts : List Term) (i : Nat) : List Nat := ((getT ts i).map (·.allParents)).getD []
def childrenOf (ts : List Term) (i : Nat) : List Nat := ((getT ts i).map (·.children)).getD []
def annOf (k : Kind) (ts : List Term) (i : Nat) : List Nat := ((getT ts i).map (·.ann k)).getD []

section
variable {ts : List Term} {j : Nat} {t : Term} (h : getT ts j = some t)
include h
theorem parentsOf_eq : parentsOf ts j = t.parents := by simp [parentsOf, h]
theorem childrenOf_eq : childrenOf ts j = t.children := by simp [childrenOf, h]
theorem allOf_eq : allOf ts j = t.allParents := by simp [allOf, h]
theorem annOf_eq {k : Kind} : annOf k ts j = t.ann k := by simp [annOf, h]
end

section
variable {ts : List Term} {j : Nat} (h : getT ts j = none)
include h
theorem parentsOf_none : parentsOf ts j = [] := by rw [parentsOf, h]; rfl
theorem allOf_none : allOf ts j = [] := by rw [allOf, h]; rfl
end

/-- an id that has a member in one of its fields resolves: `parentsOf` … `annOf` above and `hposOf` all are
`((lookup).map c).getD []` -/
theorem isSome_of_mem_getD {α : Type} {c : α → List Nat} {a : Option α} {x : Nat}
    (h : x ∈ (a.map c).getD []) : a.isSome := by
  cases a with
  | none => cases h
  | some _ => rfl

theorem mem_getD_map {α : Type} {c : α → List Nat} {a : Option α} {x : Nat} :
    x ∈ (a.map c).getD [] ↔ ∃ v, a = some v ∧ x ∈ c v := by
  cases a <;> simp

theorem mem_allOf {ts : List Term} {d x : Nat} :
    x ∈ allOf ts d ↔ ∃ td, getT ts d = some td ∧ x ∈ td.allParents :=
  mem_getD_map

/-- a lookup `b` that returns terms newly made by `g` (`TermFact.term` of a term fact) shows `[]` in every
field `c` that `g` leaves empty -/
theorem field_eq_nil {α : Type} {c : Term → List Nat} {a : Option α} {g : α → Term} {b : Option Term}
    (h : b = a.map g) (hg : ∀ x, c (g x) = []) : (b.map c).getD [] = [] := by
  subst h; cases a <;> simp [hg]

/-- with `a`, `b` the lookups of one id in two arenas and `c` one of the four fields above, this is the
frame lemma of every builder step -/
theorem field_congr {γ : Type} {c : Term → γ} {d : γ} {a b : Option Term} {g : Term → Term}
    (h : b = a.map g) (hg : ∀ t, c (g t) = c t) : (b.map c).getD d = (a.map c).getD d := by
  subst h; cases a <;> simp [hg]

/-- `parentsOf`, `childrenOf`, `allOf`, `annOf` at a lookup `x` unfold to `(x.map (g ∘ p)).getD []` for
every projection `p` through which the field factors -/
theorem view_of_proj {α : Type} {p : Term → α} {x y : Option Term} (h : x.map p = y.map p)
    (g : α → List Nat) : (x.map (g ∘ p)).getD [] = (y.map (g ∘ p)).getD [] := by
  rw [← Option.map_map, ← Option.map_map, h]

theorem isSome_of_proj {α : Type} {p : Term → α} {x y : Option Term} (h : x.map p = y.map p) :
    x.isSome = y.isSome := by
  have := congrArg Option.isSome h
  simpa using this

end Hpo
