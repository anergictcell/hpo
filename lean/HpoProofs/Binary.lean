import HpoModel.Binary
import HpoProofs.Arena
/-! The byte-level model (`HpoModel/Binary.lean`): every record decoder inverts its encoder, a section
is a walk over such records, and the layers above (section, release version, body, file) are frames
(`Framed`).  Then what `as_bytes` needs of an ontology (`EncOK`) and its name cut (`takeFit`). -/
namespace Hpo

namespace Binary
open Proto (utf8 utf8Decode)

/-! ### primitives -/

@[simp] theorem geLen_eq (bs : Bytes) (n : Nat) : geLen bs n = decide (n ≤ bs.length) := by
  fun_induction geLen bs n <;> simp_all

theorem ofNat_toNat_add (n : Nat) : 256 * (n / 256) + (UInt8.ofNat n).toNat = n := by
  rw [UInt8.toNat_ofNat']; exact Nat.div_add_mod n 256

theorem ofNat_toNat_small (n : Nat) (h : n ≤ 255) : (UInt8.ofNat n).toNat = n := by
  rw [UInt8.toNat_ofNat']; exact Nat.mod_eq_of_lt (Nat.lt_succ_of_le h)

theorem be32_u32be (n : Nat) (h : n < 4294967296) :
    be32 (UInt8.ofNat (n / 16777216)) (UInt8.ofNat (n / 65536)) (UInt8.ofNat (n / 256)) (UInt8.ofNat n) = n := by
  have h0 := ofNat_toNat_add n
  have h1 := ofNat_toNat_add (n / 256)
  have h2 := ofNat_toNat_add (n / 65536)
  have h3 := ofNat_toNat_add (n / 16777216)
  rw [Nat.div_div_eq_div_mul] at h1 h2 h3
  rw [Nat.div_eq_of_lt h] at h3
  -- `n` written out in base 256: 256 * (256 * (256 * (256 * 0 + a) + b) + c) + d
  conv => rhs; rw [← h0, ← h1, ← h2, ← h3]
  simp +arith [be32]

theorem be32_lt (a b c d : UInt8) : be32 a b c d < 4294967296 := by
  have := a.toNat_lt; have := b.toNat_lt; have := c.toNat_lt; have := d.toNat_lt
  simp only [be32]; omega

@[simp] theorem u32be_length (n : Nat) : (u32be n).length = 4 := rfl

theorem u32be_append (n : Nat) (r : Bytes) :
    u32be n ++ r = UInt8.ofNat (n / 16777216) :: UInt8.ofNat (n / 65536) :: UInt8.ofNat (n / 256) :: UInt8.ofNat n :: r := rfl

theorem u32be_bytes (n : Nat) (h : n < 4294967296) :
    ∃ a b c d, (∀ rest, u32be n ++ rest = a :: b :: c :: d :: rest) ∧ be32 a b c d = n :=
  ⟨_, _, _, _, fun _ => rfl, be32_u32be n h⟩

theorem utf8_cons (c : Char) (cs : List Char) : utf8 (c :: cs) = String.utf8EncodeChar c ++ utf8 cs := by
  simp [utf8]

theorem utf8_append (a b : List Char) : utf8 (a ++ b) = utf8 a ++ utf8 b := by
  simp [utf8]

theorem utf8_replicate_length (n : Nat) (c : Char) :
    (utf8 (List.replicate n c)).length = n * c.utf8Size := by
  induction n with
  | zero => simp [utf8]
  | succ n ih =>
    rw [List.replicate_succ, utf8_cons, List.length_append, ih, String.length_utf8EncodeChar,
      Nat.succ_mul, Nat.add_comm]

theorem utf8Decode_utf8_append (cs : List Char) (bs : Bytes) :
    utf8Decode (utf8 cs ++ bs) = (utf8Decode bs).map (cs ++ ·) := by
  induction cs with
  | nil => simp [utf8]
  | cons c cs ih =>
    have e : utf8Decode (utf8 (c :: cs) ++ bs) = (utf8Decode (utf8 cs ++ bs)).map (c :: ·) := by
      rw [utf8_cons, List.append_assoc]
      simp only [utf8Decode]
      rw [List.toByteArray_append, ← List.utf8Encode_singleton,
        ByteArray.utf8Decode?_utf8Encode_singleton_append]
      cases (utf8 cs ++ bs).toByteArray.utf8Decode? <;> simp
    rw [e, ih, Option.map_map]
    rfl

theorem utf8_roundtrip (cs : List Char) : utf8Decode (utf8 cs) = some cs := by
  have := utf8Decode_utf8_append cs []
  rw [List.append_nil] at this
  rw [this]
  simp [utf8Decode]

@[simp] theorem idsBytes_length (is : List Nat) : (idsBytes is).length = 4 * is.length := by
  induction is with
  | nil => rfl
  | cons i is ih => simp +arith [idsBytes, ih]

theorem readIds_idsBytes (is : List Nat) (rest : Bytes) (h : ∀ i ∈ is, i < 4294967296) :
    readIds is.length (idsBytes is ++ rest) = is := by
  induction is with
  | nil => rfl
  | cons i is ih =>
    obtain ⟨a, b, c, d, e, hb⟩ := u32be_bytes i (h i (by simp))
    rw [idsBytes, List.append_assoc, e, List.length_cons, readIds, hb, ih fun j hj => h j (by simp [hj])]

theorem readIds_idsBytes_nil (is : List Nat) (h : ∀ i ∈ is, i < 4294967296) :
    readIds is.length (idsBytes is) = is := by
  have := readIds_idsBytes is [] h
  rwa [List.append_nil] at this

/-! ### encodability of records -/

/-- a term record is encodable: id inside the id table, name at most 255 bytes, replacement (if
any) a non-zero u32 (0 is the encoding of "none": finding K3) -/
def TermOK (t : Term) : Prop :=
  t.id < maxId ∧ (utf8 t.name).length ≤ 255 ∧ ∀ r, t.replacement = some r → 0 < r ∧ r < 4294967296

/-- what a v2 / v3 term record carries -/
def cleanTerm (t : Term) : Term :=
  { id := t.id, name := t.name, obsolete := t.obsolete, replacement := t.replacement }

/-- what a v1 term record carries -/
def plainTerm (t : Term) : Term := { id := t.id, name := t.name }

/-- what format version `fv` carries of a term -/
def projTerm (fv : Nat) (t : Term) : Term := if fv = 1 then plainTerm t else cleanTerm t

theorem projTerm_id (fv : Nat) (t : Term) : (projTerm fv t).id = t.id := by
  unfold projTerm; split <;> rfl

-- 10^9 (listed ids) and 10^8 (bytes of a disease name) are round bounds under which the length field
-- of the record stays below 2^32
def GeneOK (r : Rec) : Prop :=
  r.id < 4294967296 ∧ (utf8 r.name).length ≤ 255 ∧ r.hpos.length < 1000000000 ∧ ∀ i ∈ r.hpos, i < 4294967296

def DiseaseOK (r : Rec) : Prop :=
  r.id < 4294967296 ∧ (utf8 r.name).length < 100000000 ∧ r.hpos.length < 1000000000 ∧ ∀ i ∈ r.hpos, i < 4294967296

def ParentsOK (p : Nat × List Nat) : Prop :=
  p.1 < 4294967296 ∧ p.2.length < 1000000000 ∧ ∀ i ∈ p.2, i < 4294967296

theorem maxId_lt : maxId < 4294967296 := by decide

/-! ### record-level inverses

The decoders look at the bytes of a u32 field through `be32` only, so the proofs name them
(`u32be_bytes`) and leave `u32be` folded: with the four quotients written out a goal repeats every
number four to eight times.  What is left of the bounds checks is linear arithmetic. -/

theorem decTermV2_enc (fv : Nat) (hfv : fv ≠ 1) (t : Term) (h : TermOK t) (rest : Bytes) :
    decTermV2 (encTerm fv t ++ rest) = .ok (cleanTerm t) := by
  obtain ⟨hid, hname, hrepl⟩ := h
  obtain ⟨hr, hrep⟩ : t.replacement.getD 0 < 4294967296 ∧
      (if t.replacement.getD 0 = 0 then none else some (t.replacement.getD 0)) = t.replacement := by
    cases hrp : t.replacement with
    | none => exact ⟨by decide, rfl⟩
    | some r => exact ⟨(hrepl r hrp).2, if_neg (Nat.ne_of_gt (hrepl r hrp).1)⟩
  obtain ⟨l0, l1, l2, l3, eL, -⟩ := u32be_bytes ((utf8 t.name).length + 14) (by omega)
  obtain ⟨i0, i1, i2, i3, eI, hI⟩ := u32be_bytes t.id (Nat.lt_trans hid maxId_lt)
  obtain ⟨r0, r1, r2, r3, eR, hR⟩ := u32be_bytes (t.replacement.getD 0) hr
  simp only [encTerm, if_neg hfv, List.append_assoc, List.cons_append, eL, eI, eR]
  simp only [decTermV2, hI, hR, hrep, ofNat_toNat_small _ hname, List.take_left' rfl, List.drop_left' rfl,
    utf8_roundtrip]
  rw [if_neg (by simp +arith [geLen_eq]), cleanTerm]
  cases t.obsolete <;> rfl

theorem decTermV1_enc (t : Term) (h : TermOK t) (rest : Bytes) :
    decTermV1 (encTerm 1 t ++ rest) = .ok (plainTerm t) := by
  obtain ⟨hid, hname, _⟩ := h
  obtain ⟨l0, l1, l2, l3, eL, hL⟩ := u32be_bytes ((utf8 t.name).length + 9) (by omega)
  obtain ⟨i0, i1, i2, i3, eI, hI⟩ := u32be_bytes t.id (Nat.lt_trans hid maxId_lt)
  simp only [encTerm, if_pos, List.cons_append, eL, eI]
  simp only [decTermV1, hL, hI, ofNat_toNat_small _ hname, Nat.add_sub_cancel, List.take_left' rfl,
    utf8_roundtrip]
  simp +arith [geLen_eq, plainTerm]

theorem decTerm_enc (fv : Nat) (t : Term) (h : TermOK t) (rest : Bytes) :
    decTerm fv (encTerm fv t ++ rest) = .ok (projTerm fv t) := by
  by_cases hfv : fv = 1
  · subst hfv; simp [decTerm, projTerm, decTermV1_enc t h rest]
  · simp [decTerm, projTerm, hfv, decTermV2_enc fv hfv t h rest]

theorem encTerm_length (fv : Nat) (t : Term) :
    (encTerm fv t).length = (utf8 t.name).length + (if fv = 1 then 9 else 14) := by
  by_cases hfv : fv = 1 <;> simp +arith [encTerm, hfv]

theorem encGene_length (r : Rec) : (encGene r).length = 13 + (utf8 r.name).length + 4 * r.hpos.length := by
  simp +arith [encGene]

theorem encDisease_length (r : Rec) : (encDisease r).length = 16 + (utf8 r.name).length + 4 * r.hpos.length := by
  simp +arith [encDisease]

theorem GeneOK.length_lt {r : Rec} (h : GeneOK r) : (encGene r).length < 4294967296 := by
  have := h.2.1
  have := h.2.2.1
  rw [encGene_length]; omega

theorem DiseaseOK.length_lt {r : Rec} (h : DiseaseOK r) : (encDisease r).length < 4294967296 := by
  have := h.2.1
  have := h.2.2.1
  rw [encDisease_length]; omega

theorem decGene_enc (r : Rec) (h : GeneOK r) : decGene (encGene r) = .ok r := by
  have hlen := encGene_length r ▸ h.length_lt
  obtain ⟨hid, hname, hn, hids⟩ := h
  obtain ⟨l0, l1, l2, l3, eL, hL⟩ := u32be_bytes (13 + (utf8 r.name).length + 4 * r.hpos.length) hlen
  obtain ⟨i0, i1, i2, i3, eI, hI⟩ := u32be_bytes r.id hid
  obtain ⟨c0, c1, c2, c3, eC, hC⟩ := u32be_bytes r.hpos.length (Nat.lt_trans hn (by decide))
  rw [encGene, eL, eI, eC]
  simp only [decGene, hL, hI, hC, ofNat_toNat_small _ hname, List.take_left' rfl, List.drop_left' rfl,
    utf8_roundtrip, readIds_idsBytes_nil _ hids]
  simp +arith [geLen_eq]

theorem decDisease_enc (r : Rec) (h : DiseaseOK r) : decDisease (encDisease r) = .ok r := by
  have hlen := encDisease_length r ▸ h.length_lt
  obtain ⟨hid, hname, hn, hids⟩ := h
  obtain ⟨l0, l1, l2, l3, eL, hL⟩ := u32be_bytes (16 + (utf8 r.name).length + 4 * r.hpos.length) hlen
  obtain ⟨i0, i1, i2, i3, eI, hI⟩ := u32be_bytes r.id hid
  obtain ⟨n0, n1, n2, n3, eN, hN⟩ := u32be_bytes (utf8 r.name).length (Nat.lt_trans hname (by decide))
  obtain ⟨c0, c1, c2, c3, eC, hC⟩ := u32be_bytes r.hpos.length (Nat.lt_trans hn (by decide))
  rw [encDisease, eL, eI, eN, eC]
  simp only [decDisease, hL, hI, hN, hC, List.take_left' rfl, List.drop_left' rfl, utf8_roundtrip,
    readIds_idsBytes_nil _ hids]
  simp +arith [geLen_eq]

theorem encParents_length (p : Nat × List Nat) : (encParents p).length = 8 + 4 * p.2.length := by
  simp +arith [encParents]

/-! ### section walks -/

theorem encTerm_shape (fv : Nat) (t : Term) :
    ∃ x tl, encTerm fv t = u32be (encTerm fv t).length ++ x :: tl := by
  rw [encTerm_length, encTerm]
  split <;> exact ⟨_, _, rfl⟩

theorem stepTerm_enc (fv : Nat) (t : Term) (h : TermOK t) (rest : Bytes) :
    stepTerm fv (encTerm fv t ++ rest) = .ok (projTerm fv t, (encTerm fv t).length - 1) := by
  have hd := decTerm_enc fv t h rest
  have hid : ¬ (projTerm fv t).id ≥ maxId := by rw [projTerm_id]; exact Nat.not_le.2 h.1
  have hlen : (encTerm fv t).length < 4294967296 := by
    have := h.2.1
    rw [encTerm_length]; split <;> omega
  have hge : (encTerm fv t).length ≤ (encTerm fv t ++ rest).length := by simp
  obtain ⟨x, tl, hs⟩ := encTerm_shape fv t
  obtain ⟨a, b, c, d, e, hb⟩ := u32be_bytes _ hlen
  have hpos : (encTerm fv t).length ≠ 0 := by rw [hs]; simp
  generalize (encTerm fv t).length = L at *
  rw [hs, List.append_assoc, e, List.cons_append] at hd hge ⊢
  simp only [stepTerm, hb, hd, geLen_eq, hge, decide_true, Bool.not_true, Bool.false_eq_true, ↓reduceIte,
    hid, hpos]

theorem stepParents_enc (p : Nat × List Nat) (h : ParentsOK p) (rest : Bytes) :
    stepParents (encParents p ++ rest) = .ok (p, (encParents p).length - 1) := by
  obtain ⟨hid, hn, hids⟩ := h
  obtain ⟨a, b, c, d, eN, hN⟩ := u32be_bytes p.2.length (Nat.lt_trans hn (by decide))
  obtain ⟨t0, t1, t2, t3, eT, hT⟩ := u32be_bytes p.1 hid
  rw [encParents_length, encParents, List.append_assoc, List.append_assoc, eN, eT]
  simp only [stepParents, hN, hT, readIds_idsBytes _ _ hids]
  simp +arith [geLen_eq]

theorem stepRec_enc (dec : Bytes → Res Rec) (enc : Rec → Bytes) (r : Rec) (rest : Bytes)
    (hdec : dec (enc r) = .ok r) (hlen : (enc r).length < 4294967296)
    (hshape : ∃ tl, enc r = u32be (enc r).length ++ tl) :
    stepRec dec (enc r ++ rest) = .ok (r, (enc r).length - 1) := by
  obtain ⟨tl, hs⟩ := hshape
  obtain ⟨a, b, c, d, e, hb⟩ := u32be_bytes _ hlen
  have hpos : (enc r).length ≠ 0 := by rw [hs]; simp
  have htake : (enc r ++ rest).take (enc r).length = enc r := List.take_left' rfl
  have hge : (enc r).length ≤ (enc r ++ rest).length := by simp
  generalize (enc r).length = L at *
  simp only [hs, e, List.cons_append] at hdec htake hge ⊢
  simp only [stepRec, hb, htake, hdec, geLen_eq, hge, decide_true, Bool.not_true, Bool.false_eq_true,
    ↓reduceIte, hpos]

theorem walk_nil {α : Type} (step : Bytes → Res (α × Nat)) : walk step [] = .ok [] := by
  rw [walk]; simp

theorem walk_cons {α : Type} (step : Bytes → Res (α × Nat)) (e rest : Bytes) (x : α)
    (hne : 0 < e.length) (hstep : step (e ++ rest) = .ok (x, e.length - 1)) :
    walk step (e ++ rest) = (walk step rest).bind fun xs => .ok (x :: xs) := by
  rw [walk]
  have : e ++ rest ≠ [] := by
    cases e with
    | nil => simp at hne
    | cons a e' => simp
  simp only [this, dite_false, hstep]
  rw [Nat.sub_add_cancel hne, List.drop_left' rfl]

theorem walk_encList {α β : Type} (step : Bytes → Res (β × Nat)) (enc : α → Bytes) (proj : α → β)
    (xs : List α)
    (h : ∀ x ∈ xs, 0 < (enc x).length ∧ ∀ rest, step (enc x ++ rest) = .ok (proj x, (enc x).length - 1)) :
    walk step (encList enc xs) = .ok (xs.map proj) := by
  induction xs with
  | nil => simp [encList, walk_nil]
  | cons x xs ih =>
    have hx := h x (by simp)
    simp only [encList]
    rw [walk_cons step (enc x) (encList enc xs) (proj x) hx.1 (hx.2 _), ih (fun y hy => h y (by simp [hy]))]
    simp [Res.bind]

theorem decodeTerms_enc (fv : Nat) (ts : List Term) (h : ∀ t ∈ ts, TermOK t) :
    decodeTerms fv (encTerms fv ts) = .ok (ts.map (projTerm fv)) := by
  apply walk_encList
  intro t ht
  refine ⟨?_, fun rest => stepTerm_enc fv t (h t ht) rest⟩
  rw [encTerm_length]; split <;> omega

theorem decodeParents_enc (ps : List (Nat × List Nat)) (h : ∀ p ∈ ps, ParentsOK p) :
    decodeParents (encParentRecs ps) = .ok ps := by
  have := walk_encList stepParents encParents id ps (fun p hp =>
    ⟨by rw [encParents_length]; exact Nat.add_pos_left (by decide) _,
      fun rest => stepParents_enc p (h p hp) rest⟩)
  simpa [decodeParents, encParentRecs] using this

theorem decodeRecs_enc (dec : Bytes → Res Rec) (enc : Rec → Bytes) (rs : List Rec)
    (h : ∀ r ∈ rs, dec (enc r) = .ok r ∧ (enc r).length < 4294967296 ∧
      ∃ tl, enc r = u32be (enc r).length ++ tl) :
    decodeRecs dec (encRecs enc rs) = .ok rs := by
  have := walk_encList (stepRec dec) enc id rs fun r hr => by
    obtain ⟨hd, hl, tl, hs⟩ := h r hr
    refine ⟨?_, fun rest => stepRec_enc dec enc r rest hd hl ⟨tl, hs⟩⟩
    rw [hs]; simp; omega
  simpa [decodeRecs, encRecs] using this

theorem decodeGenes_enc (rs : List Rec) (h : ∀ r ∈ rs, GeneOK r) :
    decodeRecs decGene (encRecs encGene rs) = .ok rs :=
  decodeRecs_enc decGene encGene rs fun r hr =>
    ⟨decGene_enc r (h r hr), (h r hr).length_lt, _, by rw [encGene_length]; rfl⟩

theorem decodeDiseases_enc (rs : List Rec) (h : ∀ r ∈ rs, DiseaseOK r) :
    decodeRecs decDisease (encRecs encDisease rs) = .ok rs :=
  decodeRecs_enc decDisease encDisease rs fun r hr =>
    ⟨decDisease_enc r (h r hr), (h r hr).length_lt, _, by rw [encDisease_length]; rfl⟩

/-! ### frames

Every layer of the format is read the same way: a decoder takes a frame off the front of its
input and hands the rest to what follows.  `Framed` names that; the round trip of a file (with any
bytes after it) and the rejection of every truncated file both follow frame by frame. -/

theorem prefix_append_cases {α : Type} (p a b : List α) (h : p <+: a ++ b) :
    (p <+: a ∧ p.length < a.length) ∨ ∃ p', p = a ++ p' ∧ p' <+: b := by
  obtain ⟨t, ht⟩ := h
  rcases List.append_eq_append_iff.1 ht with ⟨a', ha, hb⟩ | ⟨c', hp, hb⟩
  · cases a' with
    | nil => exact .inr ⟨[], by simpa using ha.symm, List.nil_prefix⟩
    | cons x a' => subst ha; exact .inl ⟨List.prefix_append _ _, by simp⟩
  · exact .inr ⟨c', hp, ⟨t, hb.symm⟩⟩

/-- `dec` takes the frame `e` off the front of its input and goes on as `fin` on what follows the
frame (`fin rest = .ok (x, rest)`: the frame yields `x`); an input that ends inside the frame is not
accepted -/
structure Framed {β : Type} (dec : Bytes → Res β) (e : Bytes) (fin : Bytes → Res β) : Prop where
  read : ∀ rest, dec (e ++ rest) = fin rest
  cut : ∀ p, p <+: e → p.length < e.length → (dec p).isOk = false

theorem Framed.bind {α β : Type} {dec : Bytes → Res (α × Bytes)} {e : Bytes} {x : α}
    (F : Framed dec e fun rest => .ok (x, rest)) {k : α × Bytes → Res β} {e' : Bytes}
    {fin : Bytes → Res β} (G : Framed (fun rest => k (x, rest)) e' fin) :
    Framed (fun bs => (dec bs).bind k) (e ++ e') fin where
  read rest := by
    show (dec (e ++ e' ++ rest)).bind k = fin rest
    rw [List.append_assoc, F.read, Res.bind_ok]
    exact G.read rest
  cut p hp hl := by
    show ((dec p).bind k).isOk = false
    rcases prefix_append_cases p e e' hp with ⟨hpre, hl'⟩ | ⟨p', rfl, hp'⟩
    · exact Res.isOk_bind_false k (F.cut p hpre hl')
    · rw [F.read, Res.bind_ok]
      exact G.cut p' hp' (by simpa using hl)

theorem Framed.nil {β : Type} {dec fin : Bytes → Res β} (h : ∀ bs, dec bs = fin bs) : Framed dec [] fin :=
  ⟨h, fun _ _ hl => absurd hl (Nat.not_lt_zero _)⟩

@[simp] theorem sec_length (x : Bytes) : (sec x).length = 4 + x.length := by
  simp [sec, Nat.add_comm]

theorem takeSection_sec (x rest : Bytes) (h : x.length < 4294967296) :
    takeSection (sec x ++ rest) = .ok (x, rest) := by
  obtain ⟨a, b, c, d, e, hb⟩ := u32be_bytes x.length h
  rw [sec, List.append_assoc, e]
  simp [takeSection, hb, List.take_left' rfl, List.drop_left' rfl]

theorem takeSection_short (p y : Bytes) (n : Nat) (hn : n < 4294967296) (hp : p <+: u32be n ++ y)
    (hlen : p.length < 4 + n) : takeSection p = .panic := by
  obtain ⟨a, b, c, d, e, hb⟩ := u32be_bytes n hn
  obtain ⟨t, ht⟩ := e y ▸ hp
  rcases p with _ | ⟨a', _ | ⟨b', _ | ⟨c', _ | ⟨d', q⟩⟩⟩⟩
  case cons.cons.cons.cons =>
    simp only [List.cons_append, List.cons.injEq] at ht
    obtain ⟨rfl, rfl, rfl, rfl, _⟩ := ht
    have : ¬ n ≤ q.length := by simp at hlen; omega
    simp [takeSection, hb, this]
  all_goals rfl

theorem framed_sec (x : Bytes) (h : x.length < 4294967296) :
    Framed takeSection (sec x) fun rest => .ok (x, rest) where
  read rest := takeSection_sec x rest h
  cut p hp hl := by rw [takeSection_short p x x.length h hp (by simpa using hl)]; rfl

/-- the release version field of v2 / v3 -/
def verBytes (v : Nat × Nat × Nat) : Bytes :=
  [UInt8.ofNat (v.1 / 256), UInt8.ofNat v.1, UInt8.ofNat v.2.1, UInt8.ofNat v.2.2]

theorem hpoVersion_enc (fv : Nat) (h1 : fv ≠ 1) (v : Nat × Nat × Nat)
    (hv : v.1 < 65536 ∧ v.2.1 < 256 ∧ v.2.2 < 256) (rest : Bytes) :
    hpoVersion fv (verBytes v ++ rest) = .ok (v, rest) := by
  obtain ⟨a, b, c⟩ := hv
  simp only [verBytes, List.cons_append, List.nil_append, hpoVersion, h1, ↓reduceIte,
    ofNat_toNat_small (v.1 / 256) (by omega), ofNat_toNat_small v.2.1 (Nat.le_of_lt_succ b),
    ofNat_toNat_small v.2.2 (Nat.le_of_lt_succ c)]
  rw [Nat.mul_comm, ofNat_toNat_add]

theorem hpoVersion_short (fv : Nat) (h1 : fv ≠ 1) (p : Bytes) (h : p.length < 4) :
    (hpoVersion fv p).isOk = false := by
  rcases p with _ | ⟨a, _ | ⟨b, _ | ⟨c, _ | ⟨d, q⟩⟩⟩⟩ <;> simp [hpoVersion, h1, Res.isOk] at h ⊢
  omega

theorem framed_hpoVersion (fv : Nat) (v : Nat × Nat × Nat) (hv : v.1 < 65536 ∧ v.2.1 < 256 ∧ v.2.2 < 256) :
    Framed (hpoVersion fv) (if fv = 1 then [] else verBytes v)
      fun rest => .ok (if fv = 1 then (0, 0, 0) else v, rest) := by
  by_cases h1 : fv = 1
  · simp only [h1, ↓reduceIte]
    exact .nil fun _ => rfl
  · simp only [h1, ↓reduceIte]
    exact ⟨hpoVersion_enc fv h1 v hv, fun p _ hl => hpoVersion_short fv h1 p hl⟩

/-! ### the body of a file: release version and sections -/

/-- encodability of a set of records in format version `fv` (everything the layouts have a fixed
width for fits; section payloads are below 2^32 bytes) -/
structure FactsOK (fv : Nat) (f : RawFacts) : Prop where
  ver : f.version.1 < 65536 ∧ f.version.2.1 < 256 ∧ f.version.2.2 < 256
  terms : ∀ t ∈ f.terms, TermOK t
  parents : ∀ p ∈ f.parents, ParentsOK p
  genes : ∀ r ∈ f.genes, GeneOK r
  omim : ∀ r ∈ f.omim, DiseaseOK r
  orpha : ∀ r ∈ f.orpha, DiseaseOK r
  termsLen : (encTerms fv f.terms).length < 4294967296
  parentsLen : (encParentRecs f.parents).length < 4294967296
  genesLen : (encRecs encGene f.genes).length < 4294967296
  omimLen : (encRecs encDisease f.omim).length < 4294967296
  orphaLen : (encRecs encDisease f.orpha).length < 4294967296

/-- what a file of format version `fv` carries of the records: v1 no release version, obsolete
flags, replacements, ORPHA section; v2 no ORPHA section -/
def projFacts (fv : Nat) (f : RawFacts) : RawFacts :=
  { version := if fv = 1 then (0, 0, 0) else f.version
    terms := f.terms.map (projTerm fv)
    parents := f.parents
    genes := f.genes
    omim := f.omim
    orpha := if fv > 2 then f.orpha else [] }

theorem framed_orpha (fv : Nat) (rs : List Rec) (h : ∀ r ∈ rs, DiseaseOK r)
    (hlen : (encRecs encDisease rs).length < 4294967296) :
    Framed (orphaSection fv) (if fv > 2 then sec (encRecs encDisease rs) else [])
      fun rest => .ok (if fv > 2 then rs else [], rest) := by
  by_cases h3 : fv > 2
  · simp only [h3, ↓reduceIte]
    refine ⟨fun rest => ?_, fun p hp hl => ?_⟩
    · rw [orphaSection, if_pos h3, takeSection_sec _ _ hlen, Res.bind_ok, decodeDiseases_enc rs h]; rfl
    · rw [orphaSection, if_pos h3]
      exact Res.isOk_bind_false _ ((framed_sec _ hlen).cut p hp hl)
  · simp only [h3, ↓reduceIte]
    exact .nil fun _ => by rw [orphaSection, if_neg h3]

theorem framed_sections (fv : Nat) (ver : Nat × Nat × Nat) (f : RawFacts) (h : FactsOK fv f) :
    Framed (decodeSections fv ver) (encSections fv f) (finish { projFacts fv f with version := ver }) := by
  unfold decodeSections encSections
  refine (framed_sec _ h.termsLen).bind ?_
  simp only [decodeTerms_enc fv f.terms h.terms, Res.bind_ok]
  refine (framed_sec _ h.parentsLen).bind ?_
  simp only [decodeParents_enc f.parents h.parents, Res.bind_ok]
  refine (framed_sec _ h.genesLen).bind ?_
  simp only [decodeGenes_enc f.genes h.genes, Res.bind_ok]
  refine (framed_sec _ h.omimLen).bind ?_
  simp only [decodeDiseases_enc f.omim h.omim, Res.bind_ok]
  rw [← List.append_nil (if fv > 2 then _ else _)]
  exact (framed_orpha fv f.orpha h.orpha h.orphaLen).bind (.nil fun _ => rfl)

/-- the data after magic + version byte (all of the file for v1) -/
def encBody (fv : Nat) (f : RawFacts) : Bytes :=
  (if fv = 1 then [] else verBytes f.version) ++ encSections fv f

theorem framed_body (fv : Nat) (f : RawFacts) (h : FactsOK fv f) :
    Framed (decodeRaw fv) (encBody fv f) (finish (projFacts fv f)) :=
  (framed_hpoVersion fv f.version h.ver).bind (framed_sections fv _ f h)

/-! ### magic and format version -/

/-- what `version` strips: magic and version byte of v2 / v3, nothing of v1 -/
def encMagic (fv : Nat) : Bytes := if fv = 1 then [] else magic ++ [UInt8.ofNat fv]

theorem encHeader_eq (fv : Nat) (h1 : fv ≠ 1) (v : Nat × Nat × Nat) :
    encHeader fv v = encMagic fv ++ verBytes v := by
  rw [encMagic, if_neg h1]; rfl

-- stated with `encMagic`, `encBody` folded and proved by rewriting: a kernel check that
-- `[] ++ encSections fv f` and `encSections fv f` agree unfolds `encSections`, not `++`, and is very slow
theorem encodeRaw_eq (fv : Nat) (f : RawFacts) : encodeRaw fv f = encMagic fv ++ encBody fv f := by
  by_cases h1 : fv = 1
  · rw [encodeRaw, encMagic, encBody, if_pos h1, if_pos h1, if_pos h1, h1, List.nil_append,
      List.nil_append]
  · rw [encodeRaw, encBody, if_neg h1, if_neg h1, encHeader_eq fv h1, List.append_assoc]

theorem version_short (p : Bytes) (h : p.length < 5) : version p = .err .parseBinary := by
  simp [version, Nat.not_le.2 h]

theorem version_magic (v : UInt8) (rest : Bytes) (h : rest ≠ []) :
    version (magic ++ v :: rest) =
      if v = 3 then .ok (3, rest) else if v = 2 then .ok (2, rest) else .err .notImplemented := by
  cases rest with
  | nil => exact absurd rfl h
  | cons a r => simp [version, magic]

theorem version_v1 (p full : Bytes) (hp : p <+: full) (hlen : 5 ≤ p.length) (hm : full.take 3 ≠ magic) :
    version p = .ok (1, p) := by
  obtain ⟨t, rfl⟩ := hp
  rcases p with _ | ⟨a, _ | ⟨b, _ | ⟨c, _ | ⟨d, _ | ⟨e, q⟩⟩⟩⟩⟩ <;> simp at hlen
  simp only [List.cons_append, List.take_succ_cons, List.take_zero] at hm
  simp [version, hm]

/-- `d` may be a truncation of the body `full`: that a v1 file does not start with the magic is known of
the first three bytes of the whole body -/
theorem version_encMagic (fv : Nat) (h : fv = 1 ∨ fv = 2 ∨ fv = 3) (d full : Bytes) (hd : d <+: full)
    (hlen : 5 ≤ (encMagic fv ++ d).length) (hm : fv = 1 → full.take 3 ≠ magic) :
    version (encMagic fv ++ d) = .ok (fv, d) := by
  rcases h with rfl | rfl | rfl
  · exact version_v1 d full hd hlen (hm rfl)
  all_goals
    have hne : d ≠ [] := by rintro rfl; simp [encMagic, magic] at hlen
    exact (version_magic _ d hne).trans (by simp)

theorem take3_ne_magic (n : Nat) (y : Bytes) (h : n < 0x48504f00) : (u32be n ++ y).take 3 ≠ magic := by
  intro hh
  -- a number whose first three bytes are `HPO` is at least 0x48504f00
  have hn := be32_u32be n (Nat.lt_trans h (by decide))
  simp only [u32be, List.cons_append, List.take_succ_cons, List.take_zero, magic, List.cons.injEq,
    and_true] at hh
  rw [hh.1, hh.2.1, hh.2.2] at hn
  have : 0x48504f00 ≤ be32 0x48 0x50 0x4f (UInt8.ofNat n) := Nat.le_add_right _ _
  omega

/-! ### `from_bytes` on encoded files -/

/-- a set of records is encodable as a file of format version `fv`. For v1 (no magic) the file must
not START like a v2 / v3 file: its first bytes are the length of the terms section, so it is enough
that this length stays below 0x48504f00 (1.2 GB) -/
structure FileOK (fv : Nat) (f : RawFacts) : Prop where
  fv123 : fv = 1 ∨ fv = 2 ∨ fv = 3
  facts : FactsOK fv f
  noMagic : fv = 1 → (encTerms 1 f.terms).length < 0x48504f00

theorem FileOK.take3 {fv : Nat} {f : RawFacts} (h : FileOK fv f) (tail : Bytes) (h1 : fv = 1) :
    (encBody fv f ++ tail).take 3 ≠ magic := by
  subst h1
  rw [encBody, if_pos rfl, List.nil_append, encSections, sec, List.append_assoc, List.append_assoc]
  exact take3_ne_magic _ _ (h.noMagic rfl)

theorem FileOK.proj_small {fv : Nat} {f : RawFacts} (h : FileOK fv f) :
    ∀ t ∈ (projFacts fv f).terms, t.id < maxId := by
  intro t ht
  obtain ⟨t0, ht0, rfl⟩ := List.mem_map.1 ht
  rw [projTerm_id]
  exact (h.facts.terms t0 ht0).1

theorem version_encodeRaw (fv : Nat) (f : RawFacts) (h : FileOK fv f) (tail : Bytes) :
    version (encodeRaw fv f ++ tail) = .ok (fv, encBody fv f ++ tail) := by
  rw [encodeRaw_eq, List.append_assoc]
  refine version_encMagic fv h.fv123 _ _ (List.prefix_refl _) ?_ (h.take3 tail)
  -- four sections at least, each with a length field
  simp only [encBody, encSections, List.length_append, sec_length]; omega

theorem framed_file (fv : Nat) (f : RawFacts) (h : FileOK fv f) :
    Framed decodeBytes (encodeRaw fv f) fun tail =>
      (finish (projFacts fv f) tail).bind (Onto.loadFacts fv) where
  read tail := by
    rw [decodeBytes, version_encodeRaw fv f h tail, Res.bind_ok, (framed_body fv f h.facts).read tail]
  cut p hp hl := by
    by_cases hshort : p.length < 5
    · rw [decodeBytes, version_short p hshort]; rfl
    rw [encodeRaw_eq] at hp hl
    have h4 : (encMagic fv).length ≤ 4 := by unfold encMagic; split <;> simp [magic]
    rcases prefix_append_cases p _ _ hp with ⟨_, hl'⟩ | ⟨p', rfl, hp'⟩
    · omega
    · rw [decodeBytes, version_encMagic fv h.fv123 p' _ (hp'.trans (List.prefix_append _ []))
        (Nat.not_lt.1 hshort) (h.take3 []), Res.bind_ok]
      exact Res.isOk_bind_false _ ((framed_body fv f h.facts).cut p' hp' (by simpa using hl))

theorem decode_encodeRaw (fv : Nat) (f : RawFacts) (h : FileOK fv f) :
    version (encodeRaw fv f) = .ok (fv, encBody fv f) ∧
    decodeRaw fv (encBody fv f) = .ok (projFacts fv f) ∧
    decodeBytes (encodeRaw fv f) = Onto.loadFacts fv (projFacts fv f) := by
  have hv := version_encodeRaw fv f h []
  have hr := (framed_body fv f h.facts).read []
  have hb := (framed_file fv f h).read []
  simp only [List.append_nil] at hv hr hb
  exact ⟨hv, hr, hb⟩

/-- the builder steps of `from_bytes` do the same for the three format versions once the records are
reduced to what the version carries -/
theorem loadFacts_projFacts (fv : Nat) (f : RawFacts) :
    Onto.loadFacts fv (projFacts fv f) = Onto.loadFacts 3 (projFacts fv f) := by
  have et : (if fv = 1 then (projFacts fv f).terms.map fun t => ({ id := t.id, name := t.name } : Term)
      else (projFacts fv f).terms) = (projFacts fv f).terms := by
    split
    · subst fv
      simp [projFacts, projTerm, plainTerm]
    · rfl
  have ev : (if fv = 1 then (0, 0, 0) else (projFacts fv f).version) = (projFacts fv f).version := by
    by_cases h1 : fv = 1 <;> simp [projFacts, h1]
  have eo (o : Onto) : (if fv > 2 then Onto.addRecsFromBytes .orpha (projFacts fv f).orpha o else .ok o) =
      Onto.addRecsFromBytes .orpha (projFacts fv f).orpha o := by
    by_cases h2 : fv > 2 <;> simp [projFacts, h2, Onto.addRecsFromBytes]
  simp only [Onto.loadFacts, et, ev, eo]
  rfl

theorem decodeBytes_encodeRaw {fv : Nat} {f : RawFacts} (h : FileOK fv f) :
    decodeBytes (encodeRaw fv f) = Onto.loadFacts 3 (projFacts fv f) :=
  (decode_encodeRaw fv f h).2.2.trans (loadFacts_projFacts fv f)

/-! ### record order (hash-map iteration order) -/

theorem encList_length_perm {α : Type} (enc : α → Bytes) {xs ys : List α} (h : xs.Perm ys) :
    (encList enc xs).length = (encList enc ys).length := by
  induction h with
  | nil => rfl
  | cons x _ ih => simp [encList, ih]
  | swap x y l => simp +arith [encList]
  | trans _ _ ih1 ih2 => exact ih1.trans ih2

theorem encList_length_perm_lt {α : Type} (enc : α → Bytes) {xs ys : List α} (h : xs.Perm ys) {B : Nat}
    (hB : (encList enc xs).length < B) : (encList enc ys).length < B :=
  encList_length_perm enc h ▸ hB

/-- the same records, every section in another order -/
structure FactsPerm (f g : RawFacts) : Prop where
  version : f.version = g.version
  terms : f.terms.Perm g.terms
  parents : f.parents.Perm g.parents
  genes : f.genes.Perm g.genes
  omim : f.omim.Perm g.omim
  orpha : f.orpha.Perm g.orpha

theorem FactsPerm.refl (f : RawFacts) : FactsPerm f f :=
  ⟨rfl, .refl _, .refl _, .refl _, .refl _, .refl _⟩

theorem FactsPerm.trans {f g h : RawFacts} (a : FactsPerm f g) (b : FactsPerm g h) : FactsPerm f h :=
  ⟨a.version.trans b.version, a.terms.trans b.terms, a.parents.trans b.parents, a.genes.trans b.genes,
   a.omim.trans b.omim, a.orpha.trans b.orpha⟩

theorem FactsOK.perm {fv : Nat} {f g : RawFacts} (hp : FactsPerm f g) (h : FactsOK fv f) : FactsOK fv g where
  ver := hp.version ▸ h.ver
  terms t ht := h.terms t (hp.terms.mem_iff.2 ht)
  parents t ht := h.parents t (hp.parents.mem_iff.2 ht)
  genes t ht := h.genes t (hp.genes.mem_iff.2 ht)
  omim t ht := h.omim t (hp.omim.mem_iff.2 ht)
  orpha t ht := h.orpha t (hp.orpha.mem_iff.2 ht)
  termsLen := encList_length_perm_lt _ hp.terms h.termsLen
  parentsLen := encList_length_perm_lt _ hp.parents h.parentsLen
  genesLen := encList_length_perm_lt _ hp.genes h.genesLen
  omimLen := encList_length_perm_lt _ hp.omim h.omimLen
  orphaLen := encList_length_perm_lt _ hp.orpha h.orphaLen

theorem FileOK.perm {fv : Nat} {f g : RawFacts} (hp : FactsPerm f g) (h : FileOK fv f) : FileOK fv g :=
  ⟨h.fv123, h.facts.perm hp, fun h1 => encList_length_perm_lt _ hp.terms (h.noMagic h1)⟩

theorem projFacts_perm (fv : Nat) {f g : RawFacts} (hp : FactsPerm f g) :
    FactsPerm (projFacts fv f) (projFacts fv g) := by
  refine ⟨?_, ?_, hp.parents, hp.genes, hp.omim, ?_⟩
  · simp [projFacts, hp.version]
  · exact hp.terms.map _
  · simp only [projFacts]; split
    · exact hp.orpha
    · exact List.Perm.refl _

/-! ### name truncation of `as_bytes` -/

theorem utf8_takeFit_le (n : Nat) (cs : List Char) : (utf8 (takeFit n cs)).length ≤ n := by
  induction cs generalizing n with
  | nil => simp [takeFit, utf8]
  | cons c cs ih =>
    simp only [takeFit]
    split
    · rw [utf8_cons, List.length_append]
      have := ih (n - (String.utf8EncodeChar c).length)
      omega
    · simp [utf8]

theorem takeFit_prefix (n : Nat) (cs : List Char) : takeFit n cs <+: cs := by
  induction cs generalizing n with
  | nil => simp [takeFit]
  | cons c cs ih =>
    simp only [takeFit]
    split
    · exact List.prefix_cons_inj c |>.2 (ih _)
    · exact List.nil_prefix

theorem takeFit_maximal (n : Nat) (cs p : List Char) (hp : p <+: cs) (hfit : (utf8 p).length ≤ n) :
    p <+: takeFit n cs := by
  induction cs generalizing n p with
  | nil => simp at hp; subst hp; exact List.nil_prefix
  | cons c cs ih =>
    cases p with
    | nil => exact List.nil_prefix
    | cons a p' =>
      obtain ⟨rfl, hp'⟩ := List.cons_prefix_cons.1 hp
      rw [utf8_cons, List.length_append] at hfit
      simp only [takeFit]
      rw [if_pos (Nat.le_of_add_right_le hfit)]
      exact (List.prefix_cons_inj a).2 (ih _ p' hp' (by omega))

theorem takeFit_eq_self (n : Nat) (cs : List Char) (h : (utf8 cs).length ≤ n) : takeFit n cs = cs :=
  (takeFit_prefix n cs).eq_of_length_le (takeFit_maximal n cs cs (List.prefix_refl cs) h).length_le

theorem takeFit_append (n : Nat) (p : List Char) (c : Char) (cs : List Char)
    (hp : (utf8 p).length ≤ n) (hc : n < (utf8 p).length + (String.utf8EncodeChar c).length) :
    takeFit n (p ++ c :: cs) = p := by
  induction p generalizing n with
  | nil =>
    simp only [utf8, List.flatMap_nil, List.length_nil, Nat.zero_add] at hc
    simp only [List.nil_append, takeFit]
    rw [if_neg (Nat.not_le.2 hc)]
  | cons a p ih =>
    rw [utf8_cons, List.length_append] at hp hc
    simp only [List.cons_append, takeFit]
    rw [if_pos (Nat.le_of_add_right_le hp), ih _ (by omega) (by omega)]

theorem takeFit_replicate (n m : Nat) (c : Char) :
    takeFit n (List.replicate m c) = List.replicate (min m (n / c.utf8Size)) c := by
  induction m generalizing n with
  | zero => simp [takeFit]
  | succ m ih =>
    rw [List.replicate_succ, takeFit, String.length_utf8EncodeChar]
    split
    · rename_i h
      rw [ih, Nat.div_eq_sub_div c.utf8Size_pos h, Nat.succ_min_succ, List.replicate_succ]
    · rename_i h
      rw [Nat.div_eq_of_lt (Nat.lt_of_not_le h), Nat.min_zero, List.replicate_zero]

theorem truncName_le (cs : List Char) : (utf8 (truncName cs)).length ≤ 255 := utf8_takeFit_le 255 cs

/-! ### `as_bytes`: encodability of an ontology -/

/-- what `Ontology::as_bytes` needs of the ontology (NO bound on the names of terms and genes: they
are cut to fit the u8 length field) -/
structure EncOK (o : Onto) : Prop where
  ver : o.version.1 < 65536 ∧ o.version.2.1 < 256 ∧ o.version.2.2 < 256
  terms : ∀ t ∈ o.terms, t.id < maxId ∧ (∀ r, t.replacement = some r → 0 < r ∧ r < 4294967296) ∧
    t.parents.length < 1000000000 ∧ ∀ i ∈ t.parents, i < 4294967296
  genes : ∀ r ∈ o.genes, r.id < 4294967296 ∧ r.hpos.length < 1000000000 ∧ ∀ i ∈ r.hpos, i < 4294967296
  omim : ∀ r ∈ o.omim, DiseaseOK r
  orpha : ∀ r ∈ o.orpha, DiseaseOK r
  termsLen : (encTerms 3 (factsOf o).terms).length < 4294967296
  parentsLen : (encParentRecs (factsOf o).parents).length < 4294967296
  genesLen : (encRecs encGene (factsOf o).genes).length < 4294967296
  omimLen : (encRecs encDisease o.omim).length < 4294967296
  orphaLen : (encRecs encDisease o.orpha).length < 4294967296

theorem termFacts_eq_map (ts : List Term) : termFacts ts = ts.map termFact := by
  induction ts with
  | nil => rfl
  | cons t ts ih => simp [termFacts, ih]

theorem geneFacts_eq_map (rs : List Rec) :
    geneFacts rs = rs.map (fun r => { r with name := truncName r.name }) := by
  induction rs with
  | nil => rfl
  | cons t ts ih => simp [geneFacts, ih]

theorem parentFacts_eq_map (ts : List Term) : parentFacts ts = ts.map (fun t => (t.id, t.parents)) := by
  induction ts with
  | nil => rfl
  | cons t ts ih => simp [parentFacts, ih]

theorem mem_termFacts {x : Term} {ts : List Term} : x ∈ termFacts ts ↔ ∃ t ∈ ts, x = termFact t := by
  simp [termFacts_eq_map, eq_comm]

theorem mem_parentFacts {x : Nat × List Nat} {ts : List Term} :
    x ∈ parentFacts ts ↔ ∃ t ∈ ts, x = (t.id, t.parents) := by
  simp [parentFacts_eq_map, eq_comm]

theorem mem_geneFacts {x : Rec} {rs : List Rec} :
    x ∈ geneFacts rs ↔ ∃ r ∈ rs, x = { r with name := truncName r.name } := by
  simp [geneFacts_eq_map, eq_comm]

theorem encList_length_le {α : Type} (enc : α → Bytes) (B : Nat) (xs : List α)
    (h : ∀ x ∈ xs, (enc x).length ≤ B) : (encList enc xs).length ≤ B * xs.length := by
  induction xs with
  | nil => simp [encList]
  | cons x xs ih =>
    have := h x (by simp)
    have := ih fun y hy => h y (by simp [hy])
    simp only [encList, List.length_append, List.length_cons, Nat.mul_succ]; omega

/-- the terms section `as_bytes` writes: at most 14 + 255 bytes per term -/
theorem encTerms_factsOf_le (o : Onto) : (encTerms 3 (factsOf o).terms).length ≤ 269 * o.terms.length := by
  have := encList_length_le (encTerm 3) 269 (termFacts o.terms) fun t ht => by
    obtain ⟨t0, _, rfl⟩ := mem_termFacts.1 ht
    have : (utf8 (termFact t0).name).length ≤ 255 := truncName_le t0.name
    rw [encTerm_length, if_neg (by decide)]
    omega
  rwa [termFacts_eq_map, List.length_map, ← termFacts_eq_map] at this

/-- the genes section `as_bytes` writes: at most 13 + 255 + 4 n bytes per gene when no gene has more
than `n` terms -/
theorem encGenes_factsOf_le (n : Nat) (o : Onto) (h : ∀ r ∈ o.genes, r.hpos.length ≤ n) :
    (encRecs encGene (factsOf o).genes).length ≤ (268 + 4 * n) * o.genes.length := by
  have := encList_length_le encGene (268 + 4 * n) (geneFacts o.genes) fun r hr => by
    obtain ⟨r0, hr0, rfl⟩ := mem_geneFacts.1 hr
    have := truncName_le r0.name
    have := h r0 hr0
    rw [encGene_length]
    show 13 + (utf8 (truncName r0.name)).length + 4 * r0.hpos.length ≤ 268 + 4 * n
    omega
  rwa [geneFacts_eq_map, List.length_map, ← geneFacts_eq_map] at this

theorem projFacts_factsOf (o : Onto) : projFacts 3 (factsOf o) = factsOf o := by
  have e : projTerm 3 = cleanTerm := by funext t; simp [projTerm]
  simp [projFacts, factsOf, e, termFacts_eq_map, cleanTerm, termFact]

theorem FileOK_factsOf (o : Onto) (h : EncOK o) : FileOK 3 (factsOf o) := by
  refine ⟨Or.inr (Or.inr rfl), ?_, by simp⟩
  exact {
    ver := h.ver
    terms := by
      intro x hx
      obtain ⟨t, ht, rfl⟩ := mem_termFacts.1 hx
      obtain ⟨h1, h2, _⟩ := h.terms t ht
      exact ⟨h1, truncName_le _, h2⟩
    parents := by
      intro x hx
      obtain ⟨t, ht, rfl⟩ := mem_parentFacts.1 hx
      obtain ⟨h1, _, h3, h4⟩ := h.terms t ht
      exact ⟨Nat.lt_trans h1 maxId_lt, h3, h4⟩
    genes := by
      intro x hx
      obtain ⟨r, hr, rfl⟩ := mem_geneFacts.1 hx
      obtain ⟨h1, h2, h3⟩ := h.genes r hr
      exact ⟨h1, truncName_le _, h2, h3⟩
    omim := h.omim
    orpha := h.orpha
    termsLen := h.termsLen
    parentsLen := h.parentsLen
    genesLen := h.genesLen
    omimLen := h.omimLen
    orphaLen := h.orphaLen }

end Binary
end Hpo
