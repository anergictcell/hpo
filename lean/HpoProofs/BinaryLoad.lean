import HpoProofs.Binary
import HpoProofs.Frame
import HpoProofs.Ic
/-! What `Onto.loadFacts` (the builder steps of `from_bytes`) keeps of the decoded term records:
release version and, per term, id / name / obsolete flag / replacement, in file order, whatever the
parent, gene and disease records are: every step after the insertion of the terms respects `Same`. -/
namespace Hpo
namespace Binary

/-- the fields of a term that the term RECORD carries -/
def core (t : Term) : Nat × List Char × Bool × Option Nat := (t.id, t.name, t.obsolete, t.replacement)

/-- same term records slot by slot, same release version: the preorder every step of `loadFacts` after the
terms section respects (`*_same`) -/
def Same (o o' : Onto) : Prop := o'.terms.map core = o.terms.map core ∧ o'.version = o.version

theorem Same.refl (o : Onto) : Same o o := ⟨rfl, rfl⟩
theorem Same.trans {a b c : Onto} (h1 : Same a b) (h2 : Same b c) : Same a c :=
  ⟨h2.1.trans h1.1, h2.2.trans h1.2⟩

theorem modUnchecked_same (o o' : Onto) (i : Nat) (f : Term → Term)
    (h : o.modUnchecked i f = some o') (hf : ∀ t, core (f t) = core t) : Same o o' := by
  by_cases hi : i < maxId
  · cases ht : getT o.terms i with
    | some t => rw [modUnchecked_present f ht hi] at h; cases h; exact ⟨modT_map _ _ hf, rfl⟩
    | none => rw [modUnchecked_absent f ht hi] at h; cases h; exact ⟨rfl, rfl⟩
  · rw [Onto.modUnchecked, if_pos (Nat.not_lt.1 hi)] at h; cases h

theorem addParentUnchecked_same (o o' : Onto) (p c : Nat) (h : o.addParentUnchecked p c = some o') :
    Same o o' := by
  unfold Onto.addParentUnchecked at h
  obtain ⟨o1, h1, h2⟩ := Option.bind_eq_some_iff.1 h
  exact (modUnchecked_same _ _ _ _ h1 (fun t => rfl)).trans (modUnchecked_same _ _ _ _ h2 (fun t => rfl))

theorem addParentsOf_same (t : Nat) (ps : List Nat) (o o' : Onto) (h : Onto.addParentsOf t ps o = some o') :
    Same o o' := by
  induction ps generalizing o with
  | nil => cases h; exact Same.refl _
  | cons p ps ih =>
    obtain ⟨o1, h1, h2⟩ := Option.bind_eq_some_iff.1 h
    exact (addParentUnchecked_same _ _ _ _ h1).trans (ih _ h2)

theorem addParentRecs_same (rs : List (Nat × List Nat)) (o o' : Onto) (h : Onto.addParentRecs rs o = some o') :
    Same o o' := by
  induction rs generalizing o with
  | nil => cases h; exact Same.refl _
  | cons r rs ih =>
    obtain ⟨o1, h1, h2⟩ := Option.bind_eq_some_iff.1 h
    exact (addParentsOf_same _ _ _ _ h1).trans (ih _ h2)

theorem connectAll_same (o o' : Onto) (h : o.connectAll = .ok o') : Same o o' :=
  Onto.connectAll_preorder Same.refl Same.trans
    (fun _ _ _ _ hm => modUnchecked_same _ _ _ _ hm fun _ => rfl) h

theorem linkAll_same (k : Kind) (r : Nat) (ts : List Nat) (o o' : Onto)
    (h : Onto.linkAll k r ts o = .ok o') : Same o o' :=
  Onto.linkAll_preorder Same.refl Same.trans
    (fun _ _ _ => ⟨modT_map _ _ fun _ => by cases k <;> rfl, rfl⟩) r ts o o' h

theorem setRecs_same (o : Onto) (k : Kind) (v : List Rec) : Same o (o.setRecs k v) := by
  cases k <;> exact ⟨rfl, rfl⟩

theorem addRecsFromBytes_same (k : Kind) (rs : List Rec) (o o' : Onto)
    (h : Onto.addRecsFromBytes k rs o = .ok o') : Same o o' := by
  induction rs generalizing o with
  | nil => cases h; exact Same.refl _
  | cons r rs ih =>
    obtain ⟨o1, h1, h2⟩ := Res.bind_eq_ok.1 h
    exact ((linkAll_same _ _ _ _ _ h1).trans (setRecs_same _ _ _)).trans (ih _ h2)

theorem calcIc_same (o o' : Onto) (h : o.calcIc = .ok o') : Same o o' := by
  obtain ⟨e, hm⟩ := calcIc_map_eq h core fun t k v => by cases k <;> rfl
  exact ⟨hm, by rw [e]⟩

theorem buildWithDefaults_same (o o' : Onto) (h : o.buildWithDefaults = .ok o') : Same o o' := by
  rw [buildWithDefaults_rest o o' h]; exact ⟨rfl, rfl⟩

theorem addTermsFold_eq (ts : List Term) (o : Onto) (hid : ∀ t ∈ ts, t.id < maxId)
    (hnd : (o.terms.map (·.id) ++ ts.map (·.id)).Nodup) :
    Onto.addTermsFold ts o = some { o with terms := o.terms ++ ts } := by
  induction ts generalizing o with
  | nil => simp [Onto.addTermsFold]
  | cons t ts ih =>
    have hlt := hid t (by simp)
    have hnm : t.id ∉ o.terms.map (·.id) := by
      intro hm
      have := List.nodup_append.1 hnd
      exact this.2.2 _ hm _ (by simp) rfl
    rw [Onto.addTermsFold, Onto.addTerm, arenaInsert_of_none hlt ((getT_none_iff _ _).2 hnm),
      Option.map_some, Option.bind_some]
    rw [ih _ (fun x hx => hid x (by simp [hx]))]
    · simp
    · simpa [List.map_append, List.append_assoc] using hnd

theorem loadFacts_terms (fv : Nat) (h1 : fv ≠ 1) (f : RawFacts) (o' : Onto)
    (hid : ∀ t ∈ f.terms, t.id < maxId) (hnd : (f.terms.map (·.id)).Nodup)
    (h : Onto.loadFacts fv f = .ok o') :
    o'.terms.map core = f.terms.map core ∧ o'.version = f.version := by
  simp only [Onto.loadFacts, h1, ↓reduceIte] at h
  rw [addTermsFold_eq _ _ hid (by simpa using hnd)] at h
  simp only [List.nil_append] at h
  split at h
  · simp at h
  · rename_i o2 hp
    have s2 := addParentRecs_same _ _ _ hp
    obtain ⟨o3, h3, h⟩ := Res.bind_eq_ok.1 h
    obtain ⟨o4, h4, h⟩ := Res.bind_eq_ok.1 h
    obtain ⟨o5, h5, h⟩ := Res.bind_eq_ok.1 h
    obtain ⟨o6, h6, h⟩ := Res.bind_eq_ok.1 h
    obtain ⟨o7, h7, h⟩ := Res.bind_eq_ok.1 h
    have s6 : Same o5 o6 := by
      split at h6
      · exact addRecsFromBytes_same _ _ _ _ h6
      · simp at h6; subst h6; exact Same.refl _
    exact ((((((s2.trans (connectAll_same _ _ h3)).trans (addRecsFromBytes_same _ _ _ _ h4)).trans
      (addRecsFromBytes_same _ _ _ _ h5)).trans s6).trans (calcIc_same _ _ h7)).trans
      (buildWithDefaults_same _ _ h))

theorem decodeBytes_terms (fv : Nat) (h1 : fv ≠ 1) (f : RawFacts) (h : FileOK fv f)
    (hnd : (f.terms.map (·.id)).Nodup) (o' : Onto) (hload : decodeBytes (encodeRaw fv f) = .ok o') :
    o'.version = f.version ∧ o'.terms.map core = f.terms.map core := by
  rw [(decode_encodeRaw fv f h).2.2] at hload
  have hp : (projFacts fv f).terms = f.terms.map cleanTerm := by simp [projFacts, projTerm, h1]
  have hv : (projFacts fv f).version = f.version := if_neg h1
  obtain ⟨ht, hver⟩ := loadFacts_terms fv h1 (projFacts fv f) o' h.proj_small
    (by rw [hp, List.map_map]; exact hnd) hload
  rw [hp, List.map_map] at ht
  exact ⟨hver.trans hv, ht⟩

theorem map_core_termFacts (ts : List Term) :
    (termFacts ts).map core = ts.map fun t => (t.id, truncName t.name, t.obsolete, t.replacement) := by
  simp [termFacts_eq_map, core, termFact]

theorem map_id_termFacts (ts : List Term) : (termFacts ts).map (·.id) = ts.map (·.id) := by
  simp [termFacts_eq_map, termFact]

end Binary
end Hpo
