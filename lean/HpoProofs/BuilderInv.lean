import HpoProofs.Arena
/-!
Invariants of the term-level builder operations (`new_term`, `add_parent`): for every history of
calls — failing calls included — the arena stays referentially closed, `children` is the exact
inverse of `parents` and groups stay sorted. That a refused `add_parent` changes nothing is how `applyB` is
defined; that the code, which mutates in place, agrees is `addParentSt_eq` (C15).
-/
namespace Hpo
open Group

/-- term-level builder calls -/
inductive BOp where
  | term (name : List Char) (id : Nat) (obsolete : Bool := false) (replacement : Option Nat := none)
  | parent (p c : Nat)
deriving Repr

/-- one call; `none` = the real code panics (`new_term` with an id ≥ 10^7) -/
def applyB (o : Onto) : BOp → Option Onto
  | .term n i ob rp => o.addTerm { id := i, name := n, obsolete := ob, replacement := rp }
  | .parent p c => match o.addParent p c with
    | .ok o' => some o'
    | _ => some o      -- `Err(DoesNotExist)`: builder unchanged

def runB : List BOp → Onto → Option Onto
  | [], o => some o
  | op :: ops, o => (applyB o op).bind (runB ops)

/-- state invariant of `Builder<LooseCollection>` / `Builder<AllTerms>` ("Pre": before
`connect_all_terms`; `fresh` / `freshAnn`: ancestor caches and annotation sets are still empty) -/
structure PreInv (ts : List Term) : Prop where
  nodup : (ts.map (·.id)).Nodup
  small : ∀ j, (getT ts j).isSome → j < maxId
  fresh : ∀ j, allOf ts j = []
  freshAnn : ∀ k j, annOf k ts j = []
  closedP : ∀ j p, p ∈ parentsOf ts j → (getT ts p).isSome
  closedC : ∀ j c, c ∈ childrenOf ts j → (getT ts c).isSome
  inverse : ∀ p c, c ∈ childrenOf ts p ↔ p ∈ parentsOf ts c
  sortedP : ∀ j, Sorted (parentsOf ts j)
  sortedC : ∀ j, Sorted (childrenOf ts j)

theorem preInv_nil : PreInv [] := by
  constructor <;> intros <;> simp_all [getT, allOf, parentsOf, childrenOf, annOf, sorted_nil]

theorem field_snoc {c : Term → List Nat} {x : Term} (hc : c x = []) (ts : List Term) (j : Nat) :
    ((getT (ts ++ [x]) j).map c).getD [] = ((getT ts j).map c).getD [] := by
  rw [getT_snoc]
  cases getT ts j with
  | some _ => rfl
  | none => rw [Option.none_or]; split <;> simp [hc]

theorem preInv_arenaInsert {ts ts' : List Term} {x : Term} (h : PreInv ts)
    (hins : arenaInsert ts x = some ts') (hP : x.parents = []) (hC : x.children = [])
    (hA : x.allParents = []) (hAnn : ∀ k, x.ann k = []) : PreInv ts' := by
  obtain ⟨hlt, ⟨_, rfl⟩ | ⟨hnone, rfl⟩⟩ := arenaInsert_eq_some hins
  · exact h
  have hS : ∀ j, (getT ts j).isSome → (getT (ts ++ [x]) j).isSome := fun j hj => by
    rw [getT_snoc, Option.isSome_or, hj]; rfl
  have eP : ∀ j, parentsOf (ts ++ [x]) j = parentsOf ts j := field_snoc hP ts
  have eC : ∀ j, childrenOf (ts ++ [x]) j = childrenOf ts j := field_snoc hC ts
  constructor
  · exact nodup_key_snoc h.nodup ((getT_none_iff ts _).1 hnone)
  · intro j hj
    rw [getT_snoc, Option.isSome_or, Bool.or_eq_true] at hj
    rcases hj with hj | hj
    · exact h.small j hj
    · split at hj
      · rename_i e; exact e ▸ hlt
      · cases hj
  · intro j; exact (field_snoc hA ts j).trans (h.fresh j)
  · intro k j; exact (field_snoc (hAnn k) ts j).trans (h.freshAnn k j)
  · intro j p hp; rw [eP] at hp; exact hS p (h.closedP j p hp)
  · intro j c hc; rw [eC] at hc; exact hS c (h.closedC j c hc)
  · intro p c; rw [eC, eP]; exact h.inverse p c
  · intro j; rw [eP]; exact h.sortedP j
  · intro j; rw [eC]; exact h.sortedC j

section AddParent
variable (ts : List Term) (p c j : Nat)

/-- `modT (modT ts p (·.addChild c)) c (·.addParent p)` is the arena after a successful `add_parent(p, c)`
(`addParent_cases`) -/
theorem getT_addParent :
    getT (modT (modT ts p (·.addChild c)) c (·.addParent p)) j =
      (getT ts j).map fun t =>
        { t with children := if j = p then (insert t.children c).1 else t.children,
                 parents := if j = c then (insert t.parents p).1 else t.parents } := by
  rw [getT_modT _ c j (·.addParent p) (fun _ => rfl), getT_modT _ p j (·.addChild c) (fun _ => rfl),
    Option.map_map]
  congr 1; funext t
  split <;> split <;> rfl

theorem isSome_addParent :
    (getT (modT (modT ts p (·.addChild c)) c (·.addParent p)) j).isSome = (getT ts j).isSome := by
  rw [getT_addParent, Option.isSome_map]

theorem allOf_addParent : allOf (modT (modT ts p (·.addChild c)) c (·.addParent p)) j = allOf ts j :=
  field_congr (getT_addParent ts p c j) fun _ => rfl

theorem annOf_addParent (k : Kind) :
    annOf k (modT (modT ts p (·.addChild c)) c (·.addParent p)) j = annOf k ts j :=
  field_congr (getT_addParent ts p c j) fun _ => by cases k <;> rfl

theorem parentsOf_addParent :
    parentsOf (modT (modT ts p (·.addChild c)) c (·.addParent p)) j =
      if j = c ∧ (getT ts j).isSome then (insert (parentsOf ts j) p).1 else parentsOf ts j := by
  rw [parentsOf, getT_addParent, parentsOf]
  cases getT ts j with
  | none => rw [if_neg fun h => nomatch h.2]; rfl
  | some t => simp only [Option.isSome_some, and_true]; rfl

theorem childrenOf_addParent :
    childrenOf (modT (modT ts p (·.addChild c)) c (·.addParent p)) j =
      if j = p ∧ (getT ts j).isSome then (insert (childrenOf ts j) c).1 else childrenOf ts j := by
  rw [childrenOf, getT_addParent, childrenOf]
  cases getT ts j with
  | none => rw [if_neg fun h => nomatch h.2]; rfl
  | some t => simp only [Option.isSome_some, and_true]; rfl

end AddParent

theorem mem_parentsOf_addParent {ts : List Term} {c : Nat} (hc : (getT ts c).isSome) (p j x : Nat) :
    x ∈ parentsOf (modT (modT ts p (·.addChild c)) c (·.addParent p)) j ↔
      x ∈ parentsOf ts j ∨ (x, j) = (p, c) := by
  rw [parentsOf_addParent]
  by_cases h : j = c
  · subst h; rw [if_pos ⟨rfl, hc⟩, mem_insert, or_comm]; simp
  · rw [if_neg fun h' => h h'.1]; simp [h]

theorem mem_childrenOf_addParent {ts : List Term} {p : Nat} (hp : (getT ts p).isSome) (c j x : Nat) :
    x ∈ childrenOf (modT (modT ts p (·.addChild c)) c (·.addParent p)) j ↔
      x ∈ childrenOf ts j ∨ (j, x) = (p, c) := by
  rw [childrenOf_addParent]
  by_cases h : j = p
  · subst h; rw [if_pos ⟨rfl, hp⟩, mem_insert, or_comm]; simp
  · rw [if_neg fun h' => h h'.1]; simp [h]

theorem preInv_addParent (ts : List Term) (p c : Nat) (h : PreInv ts)
    (hp : (getT ts p).isSome) (hc : (getT ts c).isSome) :
    PreInv (modT (modT ts p (·.addChild c)) c (·.addParent p)) := by
  constructor
  · rw [modT_ids _ c (·.addParent p) (fun _ => rfl), modT_ids _ p (·.addChild c) (fun _ => rfl)]
    exact h.nodup
  · intro j hj; rw [isSome_addParent] at hj; exact h.small j hj
  · intro j; rw [allOf_addParent]; exact h.fresh j
  · intro k j; rw [annOf_addParent]; exact h.freshAnn k j
  · intro j q hq
    rw [isSome_addParent]
    rcases (mem_parentsOf_addParent hc p j q).1 hq with hq | e
    · exact h.closedP j q hq
    · cases e; exact hp
  · intro j q hq
    rw [isSome_addParent]
    rcases (mem_childrenOf_addParent hp c j q).1 hq with hq | e
    · exact h.closedC j q hq
    · cases e; exact hc
  · intro a b
    rw [mem_childrenOf_addParent hp, mem_parentsOf_addParent hc, h.inverse]
  · intro j; rw [parentsOf_addParent]; split
    · exact sorted_insert _ _ (h.sortedP j)
    · exact h.sortedP j
  · intro j; rw [childrenOf_addParent]; split
    · exact sorted_insert _ _ (h.sortedC j)
    · exact h.sortedC j

theorem addParent_cases (o : Onto) (p c : Nat) :
    (o.addParent p c = .err .doesNotExist ∧ ((o.get c).isNone ∨ (o.get p).isNone)) ∨
    ((o.get c).isSome ∧ (o.get p).isSome ∧
      o.addParent p c = .ok { o with terms := modT (modT o.terms p (·.addChild c)) c (·.addParent p) }) := by
  unfold Onto.addParent
  cases hc : o.get c with
  | none => left; simp
  | some tc =>
    cases hp : o.get p with
    | none => left; simp
    | some tp => right; simp

/-- `add_parent` as look-ups and in-place mutations is `addParent`, with the builder left as it
was when the call is refused (the third look-up cannot fail: the child is still there after the
parent was mutated) -/
theorem addParentSt_eq (o : Onto) (p c : Nat) :
    o.addParentSt p c = match o.addParent p c with
      | .ok o' => (o', .ok ())
      | _ => (o, .err .doesNotExist) := by
  unfold Onto.addParentSt Onto.addParent
  cases hc : o.get c with
  | none => rfl
  | some tc =>
    cases hp : o.get p with
    | none => rfl
    | some tp =>
      obtain ⟨hcs, htc⟩ := get_eq_some.1 hc
      have : ({ o with terms := modT o.terms p (·.addChild c) } : Onto).get c = some _ :=
        get_eq_some.2 ⟨hcs, by rw [getT_modT _ p c (·.addChild c) (fun _ => rfl), htc]; rfl⟩
      simp only [this]

theorem applyB_parent (o : Onto) (p c : Nat) (hs : ∀ j, (getT o.terms j).isSome → j < maxId) :
    applyB o (.parent p c) = some (if (getT o.terms p).isSome ∧ (getT o.terms c).isSome
      then { o with terms := modT (modT o.terms p (·.addChild c)) c (·.addParent p) } else o) := by
  rw [← get_eq_getT o p hs, ← get_eq_getT o c hs, applyB, Onto.addParent]
  cases o.get c with
  | none => rw [if_neg fun h => nomatch h.2]
  | some _ => cases o.get p with
    | none => rw [if_neg fun h => nomatch h.1]
    | some _ => rw [if_pos ⟨rfl, rfl⟩]

theorem preInv_apply (o o' : Onto) (op : BOp) (h : PreInv o.terms) (ha : applyB o op = some o') :
    PreInv o'.terms ∧ o' = { o with terms := o'.terms } := by
  cases op with
  | term n i ob rp =>
    simp only [applyB, Onto.addTerm, Option.map_eq_some_iff] at ha
    obtain ⟨ts', hts, rfl⟩ := ha
    exact ⟨preInv_arenaInsert h hts rfl rfl rfl (fun k => by cases k <;> rfl), rfl⟩
  | parent p c =>
    rw [applyB_parent o p c h.small] at ha
    cases ha
    split
    · rename_i hb; exact ⟨preInv_addParent _ p c h hb.1 hb.2, rfl⟩
    · exact ⟨h, rfl⟩

theorem preInv_run (ops : List BOp) (o o' : Onto) (h : PreInv o.terms) (hr : runB ops o = some o') :
    PreInv o'.terms ∧ o' = { o with terms := o'.terms } := by
  induction ops generalizing o with
  | nil => cases hr; exact ⟨h, rfl⟩
  | cons op ops ih =>
    simp only [runB, Option.bind_eq_some_iff] at hr
    obtain ⟨o1, h1, h2⟩ := hr
    obtain ⟨hp1, hr1⟩ := preInv_apply o o1 op h h1
    obtain ⟨hp2, hr2⟩ := ih o1 hp1 h2
    exact ⟨hp2, by rw [hr2, hr1]⟩

end Hpo
