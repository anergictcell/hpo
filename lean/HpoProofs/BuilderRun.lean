import HpoProps.C16
import HpoProofs.Built
/-!
The builder program of the checked API on a set of facts, with its intermediate states (`BuilderRun`),
and the steps every loader shares as parts of it. The program succeeds under hypotheses on the facts
alone, its result does not depend on their order (C16), and the release version commutes with every
step. A loader's term level, `add_term` per record and `add_parent_unchecked` on ids that are terms, is
`new_term` / `add_parent`; its row loop, which aborts at the first failing call (`annotateSeq`), is
`runA` while every annotated term is known; what follows the term level is the rest of the program.

Nothing here is about bytes or text: the declarations keep the namespaces `Hpo.Binary` / `Hpo.Text`
under which the statements of C07–C09 and C14 name them.
-/
namespace Hpo
namespace Binary
open C01

/-! ### the term records: `add_term` per record is `new_term` per term fact -/

def termFactOf (t : Term) : TermFact := ⟨t.name, t.id, t.obsolete, t.replacement⟩

theorem addTermsFold_eq_runB (ts : List Term) (hb : ∀ t ∈ ts, t = (termFactOf t).term) :
    ∀ o : Onto, Onto.addTermsFold ts o = runB ((ts.map termFactOf).map TermFact.op) o := by
  induction ts with
  | nil => intro o; rfl
  | cons t ts ih =>
    intro o
    have ht : t = (termFactOf t).term := hb t (by simp)
    simp only [Onto.addTermsFold, List.map_cons, runB]
    have : applyB o (termFactOf t).op = o.addTerm (termFactOf t).term := rfl
    rw [← ht] at this
    rw [this]
    cases o.addTerm t with
    | none => rfl
    | some o' => exact ih (fun s hs => hb s (by simp [hs])) o'

/-! ### the parent records: `add_parent_unchecked` on present ids is `add_parent` -/

/-- the is_a edges `(parent, child)` listed by parent records -/
def edgesOf : List (Nat × List Nat) → List EdgeFact
  | [] => []
  | r :: rs => r.2.map (fun p => (p, r.1)) ++ edgesOf rs

theorem edgesOf_eq_flatMap (rs : List (Nat × List Nat)) :
    edgesOf rs = rs.flatMap fun r => r.2.map (fun p => (p, r.1)) := by
  induction rs with
  | nil => rfl
  | cons r rs ih => rw [edgesOf, ih, List.flatMap_cons]

theorem mem_edgesOf (rs : List (Nat × List Nat)) (x j : Nat) :
    (x, j) ∈ edgesOf rs ↔ ∃ ps, (j, ps) ∈ rs ∧ x ∈ ps := by
  simp only [edgesOf_eq_flatMap, List.mem_flatMap, List.mem_map, Prod.mk.injEq, Prod.exists]
  constructor
  · rintro ⟨t, ps, hr, p, hp, rfl, rfl⟩; exact ⟨ps, hr, hp⟩
  · rintro ⟨ps, hr, hp⟩; exact ⟨j, ps, hr, x, hp, rfl, rfl⟩

theorem addParentUnchecked_eq_applyB (o : Onto) (p c : Nat) (hs : PreInv o.terms)
    (hp : (getT o.terms p).isSome) (hc : (getT o.terms c).isSome) :
    o.addParentUnchecked p c = applyB o (.parent p c) := by
  have h := C01_unchecked_eq_checked o p c hs hp hc
  cases hu : o.addParentUnchecked p c with
  | none => rw [hu] at h; simp at h
  | some o' =>
    rw [hu] at h
    simp only [Option.map_some, Option.some.injEq] at h
    simp only [applyB, ← h]

theorem runB_edges_some (es : List EdgeFact) : ∀ o : Onto, ∃ o', runB (es.map edgeOp) o = some o' := by
  induction es with
  | nil => intro o; exact ⟨o, rfl⟩
  | cons e es ih =>
    intro o
    simp only [List.map_cons, runB, edgeOp, applyB]
    cases o.addParent e.1 e.2 <;> simp only [Option.bind_some] <;> exact ih _

theorem addParentsOf_eq_runB (t : Nat) (ps : List Nat) :
    ∀ o : Onto, PreInv o.terms → (getT o.terms t).isSome → (∀ p ∈ ps, (getT o.terms p).isSome) →
      Onto.addParentsOf t ps o = runB ((ps.map (fun p => (p, t))).map edgeOp) o := by
  induction ps with
  | nil => intro o _ _ _; rfl
  | cons p ps ih =>
    intro o hpre ht hps
    simp only [Onto.addParentsOf, List.map_cons, runB]
    rw [addParentUnchecked_eq_applyB o p t hpre (hps p (by simp)) ht]
    show (applyB o (.parent p t)).bind _ = (applyB o (.parent p t)).bind _
    cases ha : applyB o (.parent p t) with
    | none => rfl
    | some o1 =>
      simp only [Option.bind_some]
      have hs := (edge_step o o1 p t hpre ha).1
      exact ih o1 (preInv_apply o o1 _ hpre ha).1 (by rw [hs]; exact ht)
        (fun q hq => by rw [hs]; exact hps q (by simp [hq]))

theorem addParentRecs_eq_runB (rs : List (Nat × List Nat)) :
    ∀ o : Onto, PreInv o.terms →
      (∀ r ∈ rs, (getT o.terms r.1).isSome ∧ ∀ p ∈ r.2, (getT o.terms p).isSome) →
      Onto.addParentRecs rs o = runB ((edgesOf rs).map edgeOp) o := by
  induction rs with
  | nil => intro o _ _; rfl
  | cons r rs ih =>
    intro o hpre hall
    obtain ⟨t, ps⟩ := r
    have h1 := hall (t, ps) (by simp)
    simp only [Onto.addParentRecs, edgesOf, List.map_append, runB_append]
    rw [addParentsOf_eq_runB t ps o hpre h1.1 h1.2]
    cases ha : runB ((ps.map (fun p => (p, t))).map edgeOp) o with
    | none => rfl
    | some o1 =>
      simp only [Option.bind_some]
      have hs := (edges_phase _ o o1 hpre ha).1
      exact ih o1 (preInv_run _ o o1 hpre ha).1
        (fun r hr => by
          have := hall r (by simp [hr])
          exact ⟨by rw [hs]; exact this.1, fun p hp => by rw [hs]; exact this.2 p hp⟩)

/-! ### `build_with_defaults` on lookups

`buildWithDefaults_eq` (Arena) is the step as a match on the two `get`s, `C19_defaults` says which ids are
in the two groups; the form below, on `getT` and `childrenOf`, is the one `Reachable` states its
`categories` / `modifier` clauses with. -/

/-- default category / modifier groups of an arena (`set_default_categories`, `set_default_modifier`) -/
def defModifier (ts : List Term) : List Nat :=
  Group.ofList ((childrenOf ts 1).filter (· ≠ Onto.phenotypeId))
def defCategories (ts : List Term) : List Nat :=
  Group.ofList ((childrenOf ts 1).filter (· ≠ Onto.phenotypeId) ++ childrenOf ts Onto.phenotypeId)

/-- `build_with_defaults` succeeds iff both roots exist, and then stores the default groups -/
theorem buildWithDefaults_ok_iff (o o' : Onto) (hs : ∀ j, (getT o.terms j).isSome → j < maxId) :
    o.buildWithDefaults = .ok o' ↔
      ((getT o.terms 1).isSome ∧ (getT o.terms Onto.phenotypeId).isSome ∧
        o' = { o with categories := defCategories o.terms, modifier := defModifier o.terms }) := by
  rw [buildWithDefaults_eq, get_eq_getT o _ hs, get_eq_getT o _ hs]
  cases h1 : getT o.terms 1 with
  | none => simp
  | some r =>
    cases h2 : getT o.terms Onto.phenotypeId with
    | none => simp
    | some p =>
      simp only [Res.ok.injEq, Option.isSome_some, true_and, defCategories, defModifier,
        childrenOf_eq h1, childrenOf_eq h2]
      exact eq_comm

end Binary

namespace Text
open Hpo.C01 Hpo.C02 Hpo.C16 Hpo.Binary

/-! ### the release version is carried along unchanged by every builder step -/

/-- `set_hpo_version` -/
def setV (v : Nat × Nat × Nat) (o : Onto) : Onto := { o with version := v }

def mapR {α β : Type} (f : α → β) (r : Res α) : Res β := r.bind fun a => .ok (f a)

@[simp] theorem mapR_ok {α β : Type} (f : α → β) (a : α) : mapR f (.ok a) = .ok (f a) := rfl
@[simp] theorem mapR_err {α β : Type} (f : α → β) (e : Err) : mapR f (.err e : Res α) = .err e := rfl
@[simp] theorem mapR_panic {α β : Type} (f : α → β) : mapR f (.panic : Res α) = .panic := rfl
@[simp] theorem mapR_diverge {α β : Type} (f : α → β) : mapR f (.diverge : Res α) = .diverge := rfl

theorem Res.bind_assoc {α β γ : Type} (r : Res α) (f : α → Res β) (g : β → Res γ) :
    (r.bind f).bind g = r.bind fun a => (f a).bind g :=
  Hpo.Res.bind_assoc r f g

theorem mapR_bind {α β γ : Type} (f : α → β) (g : β → Res γ) (r : Res α) :
    (mapR f r).bind g = r.bind fun a => g (f a) := by
  cases r <;> rfl

theorem bind_mapR {α β γ : Type} (f : β → γ) (g : α → Res β) (r : Res α) :
    mapR f (r.bind g) = r.bind fun a => mapR f (g a) := by
  cases r <;> rfl

@[simp] theorem terms_setV (v : Nat × Nat × Nat) (o : Onto) : (setV v o).terms = o.terms := rfl
@[simp] theorem recs_setV (v : Nat × Nat × Nat) (o : Onto) (k : Kind) : (setV v o).recs k = o.recs k := by
  cases k <;> rfl
@[simp] theorem get_setV (v : Nat × Nat × Nat) (o : Onto) (i : Nat) : (setV v o).get i = o.get i := rfl
@[simp] theorem getUnchecked_setV (v : Nat × Nat × Nat) (o : Onto) (i : Nat) :
    (setV v o).getUnchecked i = o.getUnchecked i := rfl
@[simp] theorem version_setV (v : Nat × Nat × Nat) (o : Onto) : (setV v o).version = v := rfl

theorem outside_setV (v : Nat × Nat × Nat) : Onto.Outside (setV v) :=
  ⟨fun _ => rfl, fun _ => rfl, fun _ _ => rfl, fun _ _ => rfl⟩

theorem addTerm_setV (v : Nat × Nat × Nat) (o : Onto) (t : Term) :
    (setV v o).addTerm t = (o.addTerm t).map (setV v) := by
  unfold Onto.addTerm
  simp only [terms_setV]
  cases arenaInsert o.terms t <;> rfl

theorem addParentUnchecked_setV (v : Nat × Nat × Nat) (o : Onto) (p c : Nat) :
    (setV v o).addParentUnchecked p c = (o.addParentUnchecked p c).map (setV v) := by
  unfold Onto.addParentUnchecked
  rw [(outside_setV v).modUnchecked]
  cases o.modUnchecked p (·.addChild c) with
  | none => rfl
  | some o' => exact (outside_setV v).modUnchecked o' c _

theorem applyB_setV (v : Nat × Nat × Nat) (o : Onto) (op : BOp) :
    applyB (setV v o) op = (applyB o op).map (setV v) := by
  cases op with
  | term n i ob rp => exact addTerm_setV v o _
  | parent p c =>
    simp only [applyB, Onto.addParent, get_setV]
    cases o.get c with
    | none => rfl
    | some _ => cases o.get p <;> rfl

theorem runB_setV (v : Nat × Nat × Nat) (ops : List BOp) (o : Onto) :
    runB ops (setV v o) = (runB ops o).map (setV v) := by
  induction ops generalizing o with
  | nil => rfl
  | cons op ops ih =>
    simp only [runB, applyB_setV]
    cases applyB o op with
    | none => rfl
    | some o' => simp only [Option.map_some, Option.bind_some]; exact ih o'

theorem connectAll_setV (v : Nat × Nat × Nat) (o : Onto) :
    (setV v o).connectAll = mapR (setV v) o.connectAll :=
  Onto.connectAll_outside (outside_setV v) o

theorem addTermToRec_setV (v : Nat × Nat × Nat) (o : Onto) (k : Kind) (n : List Char) (r t : Nat) :
    (setV v o).addTermToRec k n r t = setV v (o.addTermToRec k n r t) := by
  cases k <;> rfl

theorem annotate_setV (v : Nat × Nat × Nat) (o : Onto) (k : Kind) (r : Nat) (n : List Char) (t : Nat) :
    (setV v o).annotate k r n t = mapR (setV v) (o.annotate k r n t) := by
  unfold Onto.annotate
  simp only [get_setV]
  cases o.get t with
  | none => rfl
  | some _ =>
    simp only [addTermToRec_setV]
    exact Onto.link_outside (outside_setV v) k r _ _ t

theorem calcIcKind_setV (v : Nat × Nat × Nat) (o : Onto) (k : Kind) :
    (setV v o).calcIcKind k = mapR (setV v) (o.calcIcKind k) := by
  unfold Onto.calcIcKind
  simp only [recs_setV, terms_setV]
  cases Onto.icFold k (o.recs k).length o.terms <;> rfl

theorem calcIc_setV (v : Nat × Nat × Nat) (o : Onto) :
    (setV v o).calcIc = mapR (setV v) o.calcIc := by
  unfold Onto.calcIc
  rw [calcIcKind_setV, mapR_bind, bind_mapR]
  congr 1; funext o1
  rw [calcIcKind_setV, mapR_bind, bind_mapR]
  congr 1; funext o2
  exact calcIcKind_setV v o2 _

theorem buildWithDefaults_setV (v : Nat × Nat × Nat) (o : Onto) :
    (setV v o).buildWithDefaults = mapR (setV v) o.buildWithDefaults := by
  rw [buildWithDefaults_eq, buildWithDefaults_eq, get_setV, get_setV]
  cases o.get 1 with
  | none => rfl
  | some root => cases o.get Onto.phenotypeId <;> rfl

/-! ### the term level of a loader -/

theorem terms_phase_present (fs : List TermFact) (a : Onto) (h : runB (fs.map TermFact.op) {} = some a)
    (j : Nat) : (getT a.terms j).isSome ↔ ∃ f ∈ fs, f.id = j := by
  simp only [(terms_phase fs a h).1 j, Option.isSome_map, List.find?_isSome, decide_eq_true_eq]

/-- `add_term` per term record, then `add_parent_unchecked` per entry of a parent record, on a builder
that carries a release version: when the parent records name term records only, this is the term-level
program of the checked API on the empty builder, the version set afterwards (`none`, an id ≥ 10^7, on
both sides alike) -/
theorem loadTerms_eq_runB (ts : List Term) (ps : List (Nat × List Nat)) (v : Nat × Nat × Nat)
    (hb : ∀ t ∈ ts, t = (termFactOf t).term)
    (hps : ∀ r ∈ ps, (∃ t ∈ ts, t.id = r.1) ∧ ∀ p ∈ r.2, ∃ t ∈ ts, t.id = p) :
    (Onto.addTermsFold ts (setV v {})).bind (Onto.addParentRecs ps) =
      (runB ((ts.map termFactOf).map TermFact.op ++ (edgesOf ps).map edgeOp) {}).map (setV v) := by
  rw [addTermsFold_eq_runB ts hb, runB_setV, runB_append]
  cases h : runB ((ts.map termFactOf).map TermFact.op) {} with
  | none => rfl
  | some a0 =>
    have hpres : ∀ j, (∃ t ∈ ts, t.id = j) → (getT a0.terms j).isSome := by
      rintro j ⟨t, ht, rfl⟩
      exact (terms_phase_present _ a0 h _).2 ⟨termFactOf t, List.mem_map_of_mem ht, rfl⟩
    rw [Option.map_some, Option.bind_some, Option.bind_some,
      addParentRecs_eq_runB ps (setV v a0) (preInv_run _ {} a0 preInv_nil h).1
        (fun r hr => ⟨hpres _ (hps r hr).1, fun p hp => hpres _ ((hps r hr).2 p hp)⟩), runB_setV]

/-! ### a call history the way the loaders run it -/

/-- a call history executed the way the loaders do: the first failing call aborts -/
def annotateSeq : List AOp → Onto → Res Onto
  | [], o => .ok o
  | .annotate k r n t :: ops, o => (o.annotate k r n t).bind (annotateSeq ops)
  | .addRec k n i :: ops, o => annotateSeq ops (o.addRec k n i)

theorem annotateSeq_append (a b : List AOp) :
    ∀ o, annotateSeq (a ++ b) o = (annotateSeq a o).bind (annotateSeq b) := by
  induction a with
  | nil => intro o; rfl
  | cons op ops ih =>
    intro o
    cases op with
    | addRec k n i => simp only [List.cons_append, annotateSeq]; exact ih _
    | annotate k r n t =>
      simp only [List.cons_append, annotateSeq, Res.bind_assoc]
      exact Res.bind_congr fun o' _ => ih o'

theorem annotateSeq_setV (v : Nat × Nat × Nat) (ops : List AOp) :
    ∀ o, annotateSeq ops (setV v o) = mapR (setV v) (annotateSeq ops o) := by
  induction ops with
  | nil => intro o; rfl
  | cons op ops ih =>
    intro o
    cases op with
    | addRec k n i =>
      simp only [annotateSeq]
      have : (setV v o).addRec k n i = setV v (o.addRec k n i) := by cases k <;> rfl
      rw [this]; exact ih _
    | annotate k r n t =>
      simp only [annotateSeq, annotate_setV, mapR_bind, bind_mapR]
      exact Res.bind_congr fun o' _ => ih o'

/-- the call cannot fail: it names no term, or one that exists -/
def _root_.Hpo.AOp.Known (ex : Nat → Prop) : AOp → Prop
  | .addRec _ _ _ => True
  | .annotate _ _ _ t => ex t

theorem _root_.Hpo.AnnState.annotateSeq_spec {anc : Nat → List Nat} {ex : Nat → Prop} {rank : Nat → Nat}
    (ops : List AOp) : ∀ {o : Onto}, AnnState anc ex rank o →
      ((∀ op ∈ ops, op.Known ex) → annotateSeq ops o = .ok (runA ops o)) ∧
      ((∃ op ∈ ops, ¬ op.Known ex) → annotateSeq ops o = .err .doesNotExist) := by
  induction ops with
  | nil => intro o _; exact ⟨fun _ => rfl, by rintro ⟨_, h, _⟩; cases h⟩
  | cons op ops ih =>
    intro o S
    obtain ⟨h1, h2⟩ := ih (S.step op)
    have hgood : op.Known ex → annotateSeq (op :: ops) o = annotateSeq ops (applyA o op) := by
      cases op with
      | addRec k n i => intro _; rfl
      | annotate k rid n t => intro ht; rw [annotateSeq, (S.applyA_present k rid n ht).1]; rfl
    have hbad : ¬ op.Known ex → annotateSeq (op :: ops) o = .err .doesNotExist := by
      cases op with
      | addRec k n i => intro h; exact absurd trivial h
      | annotate k rid n t => intro ht; rw [annotateSeq, S.inv.annotate_absent k rid n ht]; rfl
    constructor
    · intro hk
      rw [hgood (hk op List.mem_cons_self)]
      exact h1 fun op' h => hk op' (List.mem_cons_of_mem _ h)
    · rintro ⟨op', hop', hn⟩
      by_cases hk : op.Known ex
      · rw [hgood hk]
        rcases List.mem_cons.1 hop' with rfl | hop'
        · exact absurd hk hn
        · exact h2 ⟨op', hop', hn⟩
      · exact hbad hk

section
variable (anc : Nat → List Nat) (ex : Nat → Prop)

/-- **success case**: when every annotated term exists, the loader's row loop is the call history
`runA` (no call fails, so "abort at the first failure" and "ignore failures" coincide) -/
theorem annotateSeq_ok (rank : Nat → Nat) (hc : AncClosure anc ex rank) (ops : List AOp) :
    (∀ op ∈ ops, op.Known ex) → ∀ o : Onto, AnnInv anc ex o → (∀ j, rank j < o.terms.length + 2) →
      annotateSeq ops o = .ok (runA ops o) :=
  fun hk _ hinv hf => ((AnnState.mk hc hinv hf).annotateSeq_spec ops).1 hk

/-- **failure case**: a row naming a term that does not exist makes the load fail with
`DoesNotExist` (the first such row aborts it) -/
theorem annotateSeq_fail (rank : Nat → Nat) (hc : AncClosure anc ex rank) (ops : List AOp) :
    (∃ op ∈ ops, ¬ op.Known ex) → ∀ o : Onto, AnnInv anc ex o → (∀ j, rank j < o.terms.length + 2) →
      annotateSeq ops o = .err .doesNotExist :=
  fun hbad _ hinv hf => ((AnnState.mk hc hinv hf).annotateSeq_spec ops).2 hbad

end

/-! ### the builder program of C01 / C02 / C03 / C16 on a set of facts -/

/-- an acyclic set of is_a facts `(parent, child)`: some rank strictly decreases from child to
parent (no bound on the rank: for a finite relation this is the absence of cycles) -/
def AcyclicEdges (es : List EdgeFact) : Prop := ∃ rank : Nat → Nat, ∀ e ∈ es, rank e.1 < rank e.2

/-- the record the call is about; `CountsFit` bounds how many distinct ones a history names -/
def _root_.Hpo.AOp.recId : AOp → Kind × Nat
  | .addRec k _ i => (k, i)
  | .annotate k r _ _ => (k, r)

theorem _root_.Hpo.AOp.recId_of_touches {ex : Nat → Prop} {k : Kind} {r : Nat} {op : AOp}
    (h : op.touches ex k r) : op.recId = (k, r) := by
  cases op with
  | addRec k' n i => exact Prod.ext h.1 h.2
  | annotate k' rid n t => exact Prod.ext h.1 h.2.1

/-- the success condition of `calculate_information_content`: per kind at most 65 535 distinct
record ids (any duplicate-free list of record ids of one kind named by the calls is that short) -/
def CountsFit (ops : List AOp) : Prop :=
  ∀ (k : Kind) (ids : List Nat), ids.Nodup → (∀ i ∈ ids, ∃ op ∈ ops, op.recId = (k, i)) →
    ids.length ≤ 65535

theorem functional_of_nodup (fs : List TermFact) (h : (fs.map (·.id)).Nodup) : Functional fs := by
  intro f hf g hg e
  have hf' := find?_key_of_mem h hf
  rw [e, find?_key_of_mem h hg] at hf'
  exact (Option.some.inj hf').symm

theorem CountsFit.of_mem {ops ops' : List AOp} (h : CountsFit ops) (hm : ∀ op ∈ ops', op ∈ ops) :
    CountsFit ops' :=
  fun k ids hnd hall => h k ids hnd fun i hi => (hall i hi).imp fun op ho => ⟨hm op ho.1, ho.2⟩

theorem AcyclicEdges.of_mem {es es' : List EdgeFact} (h : AcyclicEdges es) (hm : ∀ e ∈ es', e ∈ es) :
    AcyclicEdges es' :=
  h.imp fun _ hr e he => hr e (hm e he)

theorem countsFit_of_length (ops : List AOp) (h : ops.length ≤ 65535) : CountsFit ops := by
  intro k ids hnd hall
  have h1 : (ids.map (fun i => (k, i))).Nodup :=
    List.Pairwise.map _ (fun a b hab heq => hab (Prod.mk.inj heq).2) hnd
  have h2 : ids.map (fun i => (k, i)) ⊆ ops.map AOp.recId := by
    intro x hx
    obtain ⟨i, hi, rfl⟩ := List.mem_map.1 hx
    obtain ⟨op, hop, he⟩ := hall i hi
    exact List.mem_map.2 ⟨op, hop, he⟩
  have := List.Nodup.length_le_of_subset h1 h2
  simp only [List.length_map] at this
  exact Nat.le_trans this h

/-- the term-level half of the builder program: terms, edges, `connect_all_terms` -/
structure TermRun (fs : List TermFact) (es : List EdgeFact) (a oc : Onto) : Prop where
  run : runB (fs.map TermFact.op ++ es.map edgeOp) {} = some a
  acyclic : Acyclic a
  connect : a.connectAll = .ok oc

/-- the whole builder program on the facts `fs`, `es`, `aops` (in this order of calls), with its
intermediate states: `new_term` per term fact, `add_parent` per edge fact, `connect_all_terms`, the
annotation calls, `calculate_information_content`, `build_with_defaults` -/
structure BuilderRun (fs : List TermFact) (es : List EdgeFact) (aops : List AOp) (a oc r d : Onto) : Prop
    extends TermRun fs es a oc where
  ic : (runA aops oc).calcIc = .ok r
  build : r.buildWithDefaults = .ok d

theorem runB_facts_split {fs : List TermFact} {es : List EdgeFact} {a : Onto}
    (h : runB (fs.map TermFact.op ++ es.map edgeOp) {} = some a) :
    ∃ a0, runB (fs.map TermFact.op) {} = some a0 ∧ runB (es.map edgeOp) a0 = some a := by
  rwa [runB_append, Option.bind_eq_some_iff] at h

theorem acyclic_of_edges (fs : List TermFact) (es : List EdgeFact) (a : Onto)
    (h : runB (fs.map TermFact.op ++ es.map edgeOp) {} = some a) (hac : AcyclicEdges es) : Acyclic a := by
  obtain ⟨hpre, _⟩ := preInv_run _ {} a preInv_nil h
  rw [C01_acyclic_iff_irreflexive a hpre]
  obtain ⟨a0, h0, h1⟩ := runB_facts_split h
  have hpre0 := (preInv_run _ {} a0 preInv_nil h0).1
  obtain ⟨_, _, hP, _⟩ := edges_phase es a0 a hpre0 h1
  obtain ⟨rank, hr⟩ := hac
  have hstep : ∀ c p, p ∈ parentsOf a.terms c → rank p < rank c := by
    intro c p hcp
    rcases (hP c p).1 hcp with h | ⟨h, _, _⟩
    · have : parentsOf a0.terms c = [] := field_eq_nil ((terms_phase fs a0 h0).1 c) fun _ => rfl
      rw [this] at h; simp at h
    · exact hr (p, c) h
  intro j hj
  exact Nat.lt_irrefl _ (transGen_rank (o := a) hstep hj)

theorem runB_terms_some (fs : List TermFact) (h : ∀ f ∈ fs, f.id < maxId) :
    ∀ o : Onto, ∃ o', runB (fs.map TermFact.op) o = some o' := by
  induction fs with
  | nil => intro o; exact ⟨o, rfl⟩
  | cons f fs ih =>
    intro o
    have hf : f.id < maxId := h f (by simp)
    have : ∃ o1, applyB o f.op = some o1 := by
      show ∃ o1, (arenaInsert o.terms f.term).map _ = some o1
      cases hg : getT o.terms f.id with
      | some x => exact ⟨_, by rw [arenaInsert_of_some hf hg]; rfl⟩
      | none => exact ⟨_, by rw [arenaInsert_of_none hf hg]; rfl⟩
    obtain ⟨o1, h1⟩ := this
    obtain ⟨o2, h2⟩ := ih (fun g hg => h g (by simp [hg])) o1
    exact ⟨o2, by simp only [List.map_cons, runB, h1, Option.bind_some, h2]⟩

theorem termRun_exists (fs : List TermFact) (es : List EdgeFact) (hsmall : ∀ f ∈ fs, f.id < maxId)
    (hac : AcyclicEdges es) : ∃ a oc, TermRun fs es a oc := by
  obtain ⟨a0, h0⟩ := runB_terms_some fs hsmall {}
  obtain ⟨a, h1⟩ := runB_edges_some es a0
  have hrun : runB (fs.map TermFact.op ++ es.map edgeOp) {} = some a := by
    rw [runB_append, h0]; exact h1
  have hacy := acyclic_of_edges fs es a hrun hac
  obtain ⟨oc, hc⟩ := C01_connect_total _ a hrun hacy
  exact ⟨a, oc, hrun, hacy, hc⟩

theorem TermRun.connected {fs : List TermFact} {es : List EdgeFact} {a oc : Onto} (R : TermRun fs es a oc) :
    Connected a oc :=
  connected_of_run R.run R.acyclic R.connect

/-- after `connect_all_terms` exactly the ids of the term facts resolve -/
theorem TermRun.present {fs : List TermFact} {es : List EdgeFact} {a oc : Onto} (R : TermRun fs es a oc)
    (j : Nat) : (getT oc.terms j).isSome ↔ ∃ f ∈ fs, f.id = j := by
  obtain ⟨a0, h0, h1⟩ := runB_facts_split R.run
  rw [R.connected.upd.isSome, (edges_phase es a0 a (preInv_run _ {} a0 preInv_nil h0).1 h1).1 j]
  exact terms_phase_present fs a0 h0 j

theorem TermRun.lookup {fs : List TermFact} {es : List EdgeFact} {a oc : Onto}
    (R : TermRun fs es a oc) (j : Nat) :
    (∀ u, getT a.terms j = some u → ∃ f ∈ fs, f.id = j ∧ fieldsOf u = fieldsOf f.term) ∧
    (∀ x, x ∈ parentsOf a.terms j ↔ (x, j) ∈ es ∧ (getT oc.terms x).isSome ∧ (getT oc.terms j).isSome) ∧
    (∀ x, x ∈ childrenOf a.terms j ↔ (j, x) ∈ es ∧ (getT oc.terms x).isSome ∧ (getT oc.terms j).isSome) := by
  obtain ⟨a0, h0, h1⟩ := runB_facts_split R.run
  obtain ⟨e1, e2, e3, e4⟩ := edges_phase es a0 a (preInv_run _ {} a0 preInv_nil h0).1 h1
  have ht := (terms_phase fs a0 h0).1
  have hP : ∀ i, parentsOf a0.terms i = [] ∧ childrenOf a0.terms i = [] := fun i =>
    ⟨field_eq_nil (ht i) fun _ => rfl, field_eq_nil (ht i) fun _ => rfl⟩
  simp only [R.connected.upd.isSome, e1]
  refine ⟨fun u hu => ?_, fun x => ?_, fun x => ?_⟩
  · have := e2 j
    rw [hu, ht j] at this
    cases hf : fs.find? (fun f => f.id = j) with
    | none => rw [hf] at this; cases this
    | some f =>
      rw [hf] at this
      exact ⟨f, List.mem_of_find?_eq_some hf, by simpa using List.find?_some hf, Option.some.inj this⟩
  · rw [e3 j x, (hP j).1]; simp
  · rw [e4 j x, (hP j).2]; simp

theorem TermRun.annotateSeq_spec {fs : List TermFact} {es : List EdgeFact} {a oc : Onto} (T : TermRun fs es a oc)
    (aops : List AOp) :
    ((∀ op ∈ aops, op.Known (fun j => ∃ f ∈ fs, f.id = j)) → annotateSeq aops oc = .ok (runA aops oc)) ∧
    ((∃ op ∈ aops, ¬ op.Known (fun j => ∃ f ∈ fs, f.id = j)) → annotateSeq aops oc = .err .doesNotExist) := by
  obtain ⟨rank, S⟩ := connected_annState T.connected
  have h := S.annotateSeq_spec aops
  have hk : ∀ op : AOp, op.Known (C02.present oc) ↔ op.Known (fun j => ∃ f ∈ fs, f.id = j) := fun op => by
    cases op with
    | addRec k n i => exact Iff.rfl
    | annotate k rid n t => exact T.present t
  simpa only [hk] using h

theorem TermRun.annotateSeq_ok {fs : List TermFact} {es : List EdgeFact} {a oc : Onto} (T : TermRun fs es a oc)
    (aops : List AOp) (hk : ∀ op ∈ aops, op.Known (fun j => ∃ f ∈ fs, f.id = j)) :
    annotateSeq aops oc = .ok (runA aops oc) :=
  (T.annotateSeq_spec aops).1 hk

theorem TermRun.annotateSeq_fail {fs : List TermFact} {es : List EdgeFact} {a oc : Onto} (T : TermRun fs es a oc)
    (aops : List AOp) (hbad : ∃ op ∈ aops, ¬ op.Known (fun j => ∃ f ∈ fs, f.id = j)) :
    annotateSeq aops oc = .err .doesNotExist :=
  (T.annotateSeq_spec aops).2 hbad

/-- what every loader does after the term level — `connect_all_terms`, the annotation calls,
`calculate_information_content`, `build_with_defaults` — on the term-level state of a run that carries a
release version: the annotation history on the connected ontology, then the last two steps whatever
their outcome, the version set afterwards -/
theorem TermRun.load_tail {fs : List TermFact} {es : List EdgeFact} {a oc : Onto} (T : TermRun fs es a oc)
    (aops : List AOp) (v : Nat × Nat × Nat) (hk : ∀ op ∈ aops, op.Known (fun j => ∃ f ∈ fs, f.id = j)) :
    ((setV v a).connectAll.bind fun o2 =>
      (annotateSeq aops o2).bind fun o4 => o4.calcIc.bind fun o5 => o5.buildWithDefaults) =
      mapR (setV v) ((runA aops oc).calcIc.bind fun o5 => o5.buildWithDefaults) := by
  simp only [connectAll_setV, T.connect, mapR_ok, Res.bind_ok, annotateSeq_setV, T.annotateSeq_ok aops hk,
    calcIc_setV, mapR_bind, bind_mapR]
  exact Res.bind_congr fun r _ => buildWithDefaults_setV v r

theorem BuilderRun.load_tail {fs : List TermFact} {es : List EdgeFact} {aops : List AOp} {a oc r d : Onto}
    (R : BuilderRun fs es aops a oc r d) (v : Nat × Nat × Nat)
    (hk : ∀ op ∈ aops, op.Known (fun j => ∃ f ∈ fs, f.id = j)) :
    ((setV v a).connectAll.bind fun o2 =>
      (annotateSeq aops o2).bind fun o4 => o4.calcIc.bind fun o5 => o5.buildWithDefaults) =
      .ok (setV v d) := by
  rw [R.toTermRun.load_tail aops v hk, R.ic, Res.bind_ok, R.build, mapR_ok]

theorem BuilderRun.final {fs : List TermFact} {es : List EdgeFact} {aops : List AOp} {a oc r d : Onto}
    (R : BuilderRun fs es aops a oc r d) :
    (∀ k, d.recs k = (runA aops oc).recs k) ∧ d.version = (0, 0, 0) := by
  have h1 := buildWithDefaults_rest r d R.build
  have h2 := calcIc_rest R.ic
  refine ⟨fun k => by rw [h1, h2]; cases k <;> rfl, ?_⟩
  have hv : d.version = oc.version := by rw [h1, h2, (runA_frame aops oc).rest]
  rw [hv, R.connected.rest, R.connected.init]

theorem calcIc_ok_of_fit {a oc : Onto} (C : Connected a oc) (ops : List AOp)
    (hfit : CountsFit ops) : ∃ r, (runA ops oc).calcIc = .ok r := by
  obtain ⟨rank, S⟩ := connected_annState C
  have H := (S.run ops).inv
  have hrecs0 := C.recs_nil
  have hnd := fun k => S.runA_recIds ops k (by simp [hrecs0])
  have hids : ((runA ops oc).terms.map (·.id)).Nodup := by rw [runA_ids]; exact C.nodup
  have hsome := S.runA_recs_isSome ops
  have hN : ∀ k, ((runA ops oc).recs k).length ≤ 65535 := by
    intro k
    have := hfit k (((runA ops oc).recs k).map (·.id)) (hnd k) (by
      intro i hi
      have h1 := (getR_isSome_iff _ i).2 hi
      rcases (hsome k i).1 h1 with h0 | ⟨op, hop, ht⟩
      · simp [hrecs0, getR] at h0
      · exact ⟨op, hop, AOp.recId_of_touches ht⟩)
    simpa using this
  obtain ⟨ts', h⟩ := calcIc_total (runA ops oc) (by
    intro t ht k
    have hg := getT_of_mem_nodup hids ht
    have hle : (t.ann k).length ≤ ((runA ops oc).recs k).length := by
      rw [← annOf_eq hg]; exact H.ann_length_le k t.id
    exact Or.inr (Or.inr ⟨hN k, Nat.le_trans hle (hN k)⟩))
  exact ⟨_, h⟩

/-- the builder program succeeds on every set of facts with term ids below 10^7, an acyclic is_a
relation, record counts that fit and both roots -/
theorem builderRun_exists (fs : List TermFact) (es : List EdgeFact) (aops : List AOp)
    (hsmall : ∀ f ∈ fs, f.id < maxId) (hac : AcyclicEdges es) (hfit : CountsFit aops)
    (hroot : ∃ f ∈ fs, f.id = 1) (hphen : ∃ f ∈ fs, f.id = Onto.phenotypeId) :
    ∃ a oc r d, BuilderRun fs es aops a oc r d := by
  obtain ⟨a, oc, T⟩ := termRun_exists fs es hsmall hac
  obtain ⟨r, hr⟩ := calcIc_ok_of_fit T.connected aops hfit
  have hS : ∀ j, (getT r.terms j).isSome ↔ ∃ f ∈ fs, f.id = j := fun j => by
    rw [(run_linkOf T.connected hr j).2]; exact T.present j
  exact ⟨a, oc, r, _, T, hr,
    (buildWithDefaults_ok_iff r _ (built_of_run T.connected hr).smallT).2
      ⟨(hS 1).2 hroot, (hS _).2 hphen, rfl⟩⟩

/-- equal lookups: every term id and every record id of every kind resolve to equal data in both
ontologies; same categories, modifier roots and release version (iteration order is not compared) -/
structure SameLookups (d1 d2 : Onto) : Prop where
  terms : ∀ j, getT d1.terms j = getT d2.terms j
  recs : ∀ k r, getR (d1.recs k) r = getR (d2.recs k) r
  categories : d1.categories = d2.categories
  modifier : d1.modifier = d2.modifier
  version : d1.version = d2.version

theorem SameLookups.setV {d1 d2 : Onto} (h : SameLookups d1 d2) (v : Nat × Nat × Nat) :
    SameLookups (setV v d1) (setV v d2) :=
  ⟨h.terms, fun k r => by simp only [recs_setV]; exact h.recs k r, h.categories, h.modifier, rfl⟩

/-- **C16 assembled**: two builder programs over permuted facts (one fact per term id, one name per
record id) end in ontologies with equal lookups -/
theorem builderRun_perm {fs1 fs2 : List TermFact} {es1 es2 : List EdgeFact} {aops1 aops2 : List AOp}
    {a1 oc1 r1 d1 a2 oc2 r2 d2 : Onto}
    (R1 : BuilderRun fs1 es1 aops1 a1 oc1 r1 d1) (R2 : BuilderRun fs2 es2 aops2 a2 oc2 r2 d2)
    (hpf : fs1.Perm fs2) (hpe : es1.Perm es2) (hpa : aops1.Perm aops2) (hfun : Functional fs1)
    (nameOf : Kind → Nat → List Char) (hn : NamesFunctional nameOf aops1) : SameLookups d1 d2 := by
  have ht := C16_terms fs1 fs2 es1 es2 hpf hpe hfun a1 a2 oc1 oc2 R1.run R2.run R1.acyclic
    R1.connect R2.connect
  obtain ⟨hrecs, hterms, hcount⟩ := C16_records_and_terms _ _ a1 a2 oc1 oc2 R1.run R2.run R1.acyclic
    R2.acyclic R1.connect R2.connect ht aops1 aops2 hpa nameOf hn
  obtain ⟨rank, S⟩ := connected_annState R1.connected
  have hsmall1 := (S.run aops1).inv.small
  obtain ⟨_, hD⟩ := C16_ic_and_defaults (runA aops1 oc1) (runA aops2 oc2) r1 r2 hterms hsmall1 hcount
    R1.ic R2.ic
  obtain ⟨hc, hm, hdt⟩ := hD d1 d2 R1.build R2.build
  obtain ⟨f1, v1⟩ := R1.final
  obtain ⟨f2, v2⟩ := R2.final
  exact ⟨hdt, fun k r => by rw [f1, f2]; exact hrecs k r, hc, hm, v1.trans v2.symm⟩

theorem edgesOf_perm {r1 r2 : List (Nat × List Nat)} (h : r1.Perm r2) : (edgesOf r1).Perm (edgesOf r2) := by
  rw [edgesOf_eq_flatMap, edgesOf_eq_flatMap]; exact h.flatMap_right _

end Text

end Hpo
