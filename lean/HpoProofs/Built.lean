import HpoProps.C02
import HpoProofs.ObsEq
import HpoProofs.Ic
/-!
What every history of Builder calls establishes up to `calculate_information_content`, in terms of
lookups (`Built`): the conclusions of C01 (closure), C02 (links) and C03 (stored counts) for one and the
same ontology. `build_with_defaults` on top of it gives the class `Reachable` of C07
(`HpoProofs/LoadRefine.lean`), `build_minimal` the facts the `sub_ontology` theorems use (C14). What a
term shows through a projection that neither `setAnn` nor `setIc` affects is what it showed after
`connect_all_terms` (`calcIc_runA_lookup`); so the fields that the term-level calls write (`linkOf`)
survive the rest of the run (`run_linkOf`).
-/
namespace Hpo
open Group Relation C01 C02

/-- What every builder history establishes up to `calculate_information_content` (`built_of_run`):

* term ids unique and below 10^7 (arena keys);
* parent ids resolve, `children` is the exact inverse of `parents`, both strictly ascending;
* ancestor groups = transitive closure of `parents` (C01), no term its own ancestor, strictly ascending;
* per kind: record ids unique; a record id is on a term iff the record is directly annotated to the
  term or to a descendant (C02); direct terms of a record resolve and are strictly ascending;
  the records on a term are strictly ascending;
* the stored ic pair is `icPair (#records of the kind) (#records on the term)` and every such pair
  of counts passed `InformationContent::calculate` (a zero count, or both ≤ 65 535) (C03).

Nothing is said about the two roots, categories and modifier (`build_minimal` leaves them empty: the
result of `sub_ontology` is `Built`, not `Reachable`), names, the slot-0 placeholder, or the order of
slots and records. -/
structure Built (o : Onto) : Prop where
  nodup : (o.terms.map (·.id)).Nodup
  small : ∀ t ∈ o.terms, t.id < maxId
  closedP : ∀ j p, p ∈ parentsOf o.terms j → (getT o.terms p).isSome
  inverse : ∀ p c, c ∈ childrenOf o.terms p ↔ p ∈ parentsOf o.terms c
  sortedP : ∀ j, Sorted (parentsOf o.terms j)
  sortedC : ∀ j, Sorted (childrenOf o.terms j)
  closure : ∀ j a, a ∈ allOf o.terms j ↔ TransGen (isA o) j a
  acyclic : ∀ j, j ∉ allOf o.terms j
  sortedA : ∀ j, Sorted (allOf o.terms j)
  recNodup : ∀ k, ((o.recs k).map (·.id)).Nodup
  linked : ∀ k x r, r ∈ annOf k o.terms x ↔ ∃ d, d ∈ hposOf k o r ∧ (d = x ∨ x ∈ allOf o.terms d)
  sortedAnn : ∀ k j, Sorted (annOf k o.terms j)
  recTerms : ∀ k r d, d ∈ hposOf k o r → (getT o.terms d).isSome
  hposSorted : ∀ k r, Sorted (hposOf k o r)
  ic : ∀ t ∈ o.terms, ∀ k, t.ic k = icPair (o.recs k).length (t.ann k).length
  icFits : ∀ t ∈ o.terms, ∀ k, (o.recs k).length = 0 ∨ (t.ann k).length = 0 ∨
    ((o.recs k).length ≤ 65535 ∧ (t.ann k).length ≤ 65535)

theorem Built.defaults {o : Onto} (B : Built o) (c m : List Nat) :
    Built { o with categories := c, modifier := m } :=
  { B with }

theorem Built.smallT {o : Onto} (h : Built o) : ∀ j, (getT o.terms j).isSome → j < maxId := by
  intro j hj
  obtain ⟨t, ht⟩ := Option.isSome_iff_exists.1 hj
  have := h.small t (getT_mem ht); rwa [getT_id ht] at this

theorem Built.closedA {o : Onto} (h : Built o) (j a : Nat) (ha : a ∈ allOf o.terms j) :
    (getT o.terms a).isSome := by
  obtain ⟨c, -, hc⟩ := TransGen.tail'_iff.1 ((h.closure j a).1 ha)
  exact h.closedP c a hc

theorem Built.annResolves {o : Onto} (h : Built o) (k : Kind) (x r : Nat)
    (hr : r ∈ annOf k o.terms x) : (getR (o.recs k) r).isSome := by
  obtain ⟨d, hd, _⟩ := (h.linked k x r).1 hr
  exact isSome_of_mem_getD hd

/-- the rank of `rank_of_irreflexive` (`HpoProofs/Acyclic.lean`), the number of ancestors, read off the cached group -/
theorem Built.rank_lt {o : Onto} (h : Built o) (c p : Nat) (hp : p ∈ parentsOf o.terms c) :
    (allOf o.terms p).length < (allOf o.terms c).length := by
  have hsub : (p :: allOf o.terms p) ⊆ allOf o.terms c := by
    intro a ha
    rcases List.mem_cons.1 ha with rfl | ha
    · exact (h.closure c a).2 (TransGen.single hp)
    · exact (h.closure c a).2 (TransGen.head hp ((h.closure p a).1 ha))
  have hnd : (p :: allOf o.terms p).Nodup :=
    List.nodup_cons.2 ⟨h.acyclic p, (h.sortedA p).nodup⟩
  exact List.Nodup.length_le_of_subset hnd hsub

theorem Built.rank_fuel {o : Onto} (h : Built o) (j : Nat) :
    (allOf o.terms j).length < o.terms.length + 2 := by
  have hsub : allOf o.terms j ⊆ o.terms.map (·.id) := by
    intro a ha
    exact (getT_isSome_iff _ a).1 (h.closedA j a ha)
  have := List.Nodup.length_le_of_subset (h.sortedA j).nodup hsub
  rw [List.length_map] at this
  exact Nat.lt_succ_of_le (Nat.le_succ_of_le this)

theorem calcIc_lookup {o r : Onto} (h : o.calcIc = .ok r) {α : Type} (π : Term → α)
    (hIc : ∀ t k v, π (t.setIc k v) = π t) (j : Nat) : (getT r.terms j).map π = (getT o.terms j).map π :=
  getT_map_congr π (calcIc_map_eq h _ fun t k v => by rw [setIc_id, hIc]).2 j

theorem calcIc_runA_lookup {aops : List AOp} {oc r : Onto} (h : (runA aops oc).calcIc = .ok r) {α : Type}
    (π : Term → α) (hAnn : ∀ t k v, π (t.setAnn k v) = π t) (hIc : ∀ t k v, π (t.setIc k v) = π t)
    (j : Nat) : (getT r.terms j).map π = (getT oc.terms j).map π :=
  (calcIc_lookup h π hIc j).trans ((runA_frame aops oc).lookup π hAnn j)

def relOf (t : Term) := (t.parents, t.children, t.allParents)

/-- **Every builder history lands in `Built`**: any history of `new_term` / `add_parent` calls (failing
ones included) with an acyclic result and `connect_all_terms` (`C`, from `connected_of_run`), then any history
of `add_gene` / `add_*_disease` / `annotate_*` calls and `calculate_information_content`. -/
theorem built_of_run {o oc : Onto} (C : Connected o oc) {aops : List AOp} {r : Onto}
    (hic : (runA aops oc).calcIc = .ok r) : Built r := by
  obtain ⟨rank, S⟩ := connected_annState C
  have H := (S.run aops).inv
  -- the relations of `r` are those of `o`, its ancestor groups those of `oc`, its links and records
  -- those of `runA aops oc`
  have hrel := calcIc_runA_lookup hic relOf (fun _ k _ => by cases k <;> rfl)
    (fun _ k _ => by cases k <;> rfl)
  have hS : ∀ j, (getT r.terms j).isSome = (getT o.terms j).isSome := fun j =>
    (isSome_of_proj (hrel j)).trans (C.upd.isSome j)
  have hP : ∀ j, parentsOf r.terms j = parentsOf o.terms j := fun j =>
    (view_of_proj (hrel j) (·.1)).trans (C.upd.parents_eq j)
  have hC : ∀ j, childrenOf r.terms j = childrenOf o.terms j := fun j =>
    (view_of_proj (hrel j) (·.2.1)).trans (C.upd.children_eq j)
  have hA : ∀ j, allOf r.terms j = allOf oc.terms j := fun j => view_of_proj (hrel j) (·.2.2)
  have hN : ∀ k j, annOf k r.terms j = annOf k (runA aops oc).terms j := fun k j =>
    congrArg (·.getD []) (calcIc_lookup hic (·.ann k) (fun t k' v => setIc_ann t k' k v) j)
  have hrest : r = { runA aops oc with terms := r.terms } :=
    calcIc_rest hic
  have hdr := recs_of_rest hrest
  have hhp := hposOf_of_rest hrest
  have hisA : isA r = isA o := funext fun a => funext fun b => by rw [isA, isA, hP]
  have hmem : ∀ t ∈ r.terms, ∃ tb ∈ (runA aops oc).terms, t = icAll (runA aops oc) tb := by
    intro t ht
    rw [(calcIc_ok _ r hic).1] at ht
    obtain ⟨tb, htb, rfl⟩ := List.mem_map.1 ht
    exact ⟨tb, htb, rfl⟩
  have hids : r.terms.map (·.id) = o.terms.map (·.id) :=
    ((calcIc_map_eq hic (·.id) fun t k v => setIc_id t k v).2.trans (Binary.runA_ids aops oc)).trans C.upd.1
  constructor
  · rw [hids]; exact C.pre.nodup
  · intro t ht
    apply C.pre.small
    rw [getT_isSome_iff, ← hids]
    exact List.mem_map_of_mem ht
  · intro j p hp
    rw [hP] at hp
    rw [hS]; exact C.pre.closedP j p hp
  · intro p c; rw [hC, hP]; exact C.pre.inverse p c
  · intro j; rw [hP]; exact C.pre.sortedP j
  · intro j; rw [hC]; exact C.pre.sortedC j
  · intro j a; rw [hA, hisA]; exact C.closure j a
  · intro j hj
    rw [hA, C.closure] at hj
    obtain ⟨rk, hrk, _⟩ := C.acyclic
    exact Nat.lt_irrefl _ (transGen_rank hrk hj)
  · intro j; rw [hA]; exact C.sorted j
  · intro k; rw [hdr]
    exact S.runA_recIds aops k (by rw [C.recs_nil k]; exact List.nodup_nil)
  · intro k x rr
    rw [hN, hhp, H.linked k x rr]
    simp only [Up, ancOf, hA, eq_comm]
  · intro k j; rw [hN]; exact H.sorted k j
  · intro k rr dd hdd
    rw [hhp] at hdd
    rw [hS, ← C.upd.isSome]; exact H.recTerms k rr dd hdd
  · intro k rr; rw [hhp]; exact H.hposSorted k rr
  · intro t ht k
    obtain ⟨tb, _, rfl⟩ := hmem t ht
    rw [icAll_ic, icAll_ann, hdr]
  · intro t ht k
    obtain ⟨tb, htb, rfl⟩ := hmem t ht
    rw [icAll_ann, hdr]
    exact Binary.calcIc_fits _ r hic tb htb k

/-- the fields of a term that the term-level builder calls write -/
def linkOf (t : Term) := (t.id, t.name, t.obsolete, t.replacement, t.parents, t.children)

theorem run_linkOf {a oc : Onto} (C : Connected a oc) {aops : List AOp} {r : Onto}
    (hic : (runA aops oc).calcIc = .ok r) (j : Nat) : (getT r.terms j).map linkOf = (getT a.terms j).map linkOf ∧
      (getT r.terms j).isSome = (getT oc.terms j).isSome := by
  have h := calcIc_runA_lookup hic linkOf (fun _ k _ => by cases k <;> rfl)
    (fun _ k _ => by cases k <;> rfl) j
  refine ⟨?_, isSome_of_proj h⟩
  rw [h, C.upd.2 j, Option.map_map]
  rfl

end Hpo
