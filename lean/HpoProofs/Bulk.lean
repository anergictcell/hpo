import HpoModel.Bulk
import HpoProofs.Annotate
/-!
The one-pass form of the bulk record insertion run by the driver is the `count`-fold repetition of
the Builder call `add_gene` / `add_omim_disease` / `add_orpha_disease`.
-/
namespace Hpo
namespace Onto

theorem rangeRecs_succ (name : List Char) (first n : Nat) :
    rangeRecs name first (n + 1) = { id := first, name := name } :: rangeRecs name (first + 1) n := by
  simp only [rangeRecs, List.range_succ_eq_map, List.map_cons, List.map_map, Nat.add_zero]
  congr 1
  apply List.map_congr_left
  intro i _
  simp only [Function.comp]
  congr 1
  exact (Nat.add_right_comm first 1 i).symm

theorem getR_none_of_outside {rs : List Rec} {first count j : Nat}
    (h : ∀ r ∈ rs, r.id < first ∨ first + count ≤ r.id) (h1 : first ≤ j) (h2 : j < first + count) :
    getR rs j = none := by
  refine (getR_none_iff rs j).2 fun hm => ?_
  obtain ⟨r, hr, rfl⟩ := List.mem_map.1 hm
  exact (h r hr).elim (Nat.not_lt.2 h1) (Nat.not_le.2 h2)

theorem addRecRange_fresh (name : List Char) (k : Kind) :
    ∀ (count first : Nat) (o : Onto), (∀ r ∈ o.recs k, r.id < first ∨ first + count ≤ r.id) →
      addRecRange o k name first count = o.setRecs k (o.recs k ++ rangeRecs name first count) := by
  intro count
  induction count with
  | zero =>
    intro first o _
    rw [addRecRange, rangeRecs, List.range_zero, List.map_nil, List.append_nil]
    cases k <;> rfl
  | succ n ih =>
    intro first o h
    -- the first call appends its record; the remaining range is free in the new list as well
    have hadd : o.addRec k name first = o.setRecs k (o.recs k ++ [{ id := first, name := name }]) := by
      rw [addRec, addR_of_none (getR_none_of_outside (j := first) h (Nat.le_refl _) (Nat.lt_add_of_pos_right n.succ_pos))]
    rw [addRecRange, hadd, ih (first + 1) _ ?_, recs_setRecs, setRecs_setRecs, rangeRecs_succ,
      List.append_assoc]
    · rfl
    · rw [recs_setRecs]
      intro r hr
      rcases List.mem_append.1 hr with hr | hr
      · exact (h r hr).imp Nat.lt_succ_of_lt (Nat.add_right_comm first 1 n ▸ ·)
      · rw [List.mem_singleton.1 hr]; exact Or.inl (Nat.lt_succ_self first)

theorem addRecRangeFast_eq (o : Onto) (k : Kind) (name : List Char) (first count : Nat) :
    addRecRangeFast o k name first count = addRecRange o k name first count := by
  unfold addRecRangeFast
  split
  · rename_i h
    exact (addRecRange_fresh name k count first o fun r hr => by
      simpa using List.all_eq_true.1 h r hr).symm
  · rfl

end Onto
end Hpo
