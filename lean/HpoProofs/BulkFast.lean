import HpoModel.BulkFast
import HpoProofs.Bulk
/-!
The one-pass bulk annotation run by the driver (`HpoModel/BulkFast.lean`) is the `count`-fold
repetition of the Builder call `annotate_*` (`annotateRange`), for all arguments.
-/
namespace Hpo
namespace Onto

theorem insert_headAbove (l : List Nat) (r : Nat) (h : headAbove r l = true) :
    Group.insert l r = (r :: l, true) := by
  cases l with
  | nil => rfl
  | cons a l =>
    simp only [headAbove, decide_eq_true_eq] at h
    simp [Group.insert, h]

theorem setTerms_terms (o : Onto) (ts : List Term) : (o.setTerms ts).terms = ts := rfl

theorem setTerms_self (o : Onto) : o.setTerms o.terms = o := rfl

/-! ### the upward walk of `link` inside a closed member set -/

/-- what the walk relies on: `memberOk` of every member of `S`, as a proposition -/
def WalkOK (k : Kind) (ts : List Term) (S : List Nat) (r : Nat) : Prop :=
  ∀ p ∈ S, ∃ tp, getT ts p = some tp ∧ p < maxId ∧ (∀ q ∈ tp.allParents, q ∈ S) ∧
    headAbove r (tp.ann k) = true

/-- the term `u` once the walk for record `r` has visited the ids `vis`: a visited term has `r` in front of
its group — of the group of the FIRST term with its id, the one lookups find, should ids repeat -/
def visF (k : Kind) (ts : List Term) (r : Nat) (vis : Nat → Bool) (u : Term) : Term :=
  if vis u.id then u.setAnn k (r :: annFirst k ts u.id) else u

theorem annFirst_eq {k : Kind} {ts : List Term} {i : Nat} {u : Term} (h : getT ts i = some u) :
    annFirst k ts i = u.ann k := by
  rw [annFirst, h]

theorem visF_pos (k : Kind) (ts : List Term) (r : Nat) {vis : Nat → Bool} {u : Term} (h : vis u.id = true) :
    visF k ts r vis u = u.setAnn k (r :: annFirst k ts u.id) := if_pos h

theorem visF_neg (k : Kind) (ts : List Term) (r : Nat) {vis : Nat → Bool} {u : Term} (h : vis u.id = false) :
    visF k ts r vis u = u := if_neg (by rw [h]; exact Bool.false_ne_true)

theorem visF_id (k : Kind) (ts : List Term) (r : Nat) (vis : Nat → Bool) (u : Term) :
    (visF k ts r vis u).id = u.id := by
  unfold visF; split
  · exact setAnn_id _ _ _
  · rfl

theorem visF_allParents (k : Kind) (ts : List Term) (r : Nat) (vis : Nat → Bool) (u : Term) :
    (visF k ts r vis u).allParents = u.allParents := by
  unfold visF; split
  · exact setAnn_allParents _ _ _
  · rfl

theorem getT_visF (k : Kind) (ts ts0 : List Term) (r : Nat) (vis : Nat → Bool) (j : Nat) :
    getT (ts.map (visF k ts0 r vis)) j = (getT ts j).map (visF k ts0 r vis) :=
  getT_map ts _ (visF_id k ts0 r vis) j

/-- Every state the walk of `link k r` passes through is `st b k r vis`, for the base `b` it started on and
the set `vis` of ids visited so far; so the induction (`LinkVis`) is over `vis`, not over ontologies. -/
def st (b : Onto) (k : Kind) (r : Nat) (vis : Nat → Bool) : Onto :=
  b.setTerms (b.terms.map (visF k b.terms r vis))

theorem st_get (b : Onto) (k : Kind) (r : Nat) (vis : Nat → Bool) (p : Nat) (tp : Term)
    (h : getT b.terms p = some tp) (hp : p < maxId) :
    (st b k r vis).get p = some (visF k b.terms r vis tp) := by
  rw [get_eq_getT_of_lt _ hp, st, setTerms_terms, getT_visF, h]
  rfl

theorem st_none (b : Onto) (k : Kind) (r : Nat) : st b k r (fun _ => false) = b := by
  rw [st, show visF k b.terms r (fun _ => false) = id from funext fun _ => if_neg Bool.false_ne_true,
    List.map_id]
  rfl

theorem unvisited_le (S : List Nat) (vis vis' : Nat → Bool)
    (hm : ∀ j, vis j = true → vis' j = true) :
    S.countP (fun j => !vis' j) ≤ S.countP (fun j => !vis j) :=
  List.countP_mono_left fun x _ hx => by
    cases hv : vis x
    · rfl
    · rw [hm x hv] at hx; exact hx

theorem unvisited_lt (S : List Nat) (vis vis' : Nat → Bool) (p : Nat) (hp : p ∈ S)
    (h0 : vis p = false) (h1 : vis' p = true) (hm : ∀ j, vis j = true → vis' j = true) :
    S.countP (fun j => !vis' j) < S.countP (fun j => !vis j) := by
  -- the unvisited of `vis'` are among those of `vis`, and `p` is one of the latter only
  have e : S.countP (fun j => !vis' j) = (S.filter fun j => !vis j).countP (fun j => !vis' j) := by
    rw [List.countP_filter]
    refine List.countP_congr fun x _ => ?_
    cases hv : vis x
    · simp
    · simp [hm x hv]
  rw [e, List.countP_eq_length_filter, List.countP_eq_length_filter (p := fun j => !vis j)]
  exact List.length_filter_lt_length_iff_exists.2
    ⟨p, List.mem_filter.2 ⟨hp, by rw [h0]; rfl⟩, by rw [h1]; exact Bool.false_ne_true⟩

theorem link_unvisited (b : Onto) (k : Kind) (r : Nat)
    (fuel : Nat) (vis : Nat → Bool) (p : Nat) (tp : Term) (htp : getT b.terms p = some tp)
    (hp : p < maxId) (hh : headAbove r (tp.ann k) = true) (hv : vis p = false) :
    link k r (fuel + 1) (st b k r vis) p =
      linkFold (link k r fuel) tp.allParents (st b k r (fun j => j == p || vis j)) := by
  have hid : tp.id = p := getT_id htp
  rw [link, st_get b k r vis p tp htp hp, visF_neg k _ r (hid ▸ hv)]
  simp only [insert_headAbove _ _ hh, ↓reduceIte]
  congr 1
  show b.setTerms (modT (b.terms.map (visF k b.terms r vis)) p _) = _
  unfold st
  congr 1
  rw [modT_eq_map, List.map_map]
  refine List.map_congr_left fun u _ => ?_
  rw [Function.comp_apply, visF_id]
  by_cases hu : u.id = p
  · -- the term written: it was not visited, and the group written is that of the first term with its id
    rw [if_pos hu, visF_neg k _ r (hu ▸ hv), visF_pos k _ r (by rw [hu, beq_self_eq_true, Bool.true_or]),
      hu, annFirst_eq htp]
  · have e : (u.id == p || vis u.id) = vis u.id := by rw [beq_false_of_ne hu, Bool.false_or]
    rw [if_neg hu, visF, visF, e]

theorem link_visited (b : Onto) (k : Kind) (r : Nat) (fuel : Nat) (vis : Nat → Bool) (p : Nat)
    (tp : Term) (htp : getT b.terms p = some tp) (hp : p < maxId) (hv : vis p = true) :
    link k r (fuel + 1) (st b k r vis) p = .ok (st b k r vis) := by
  rw [link, st_get b k r vis p tp htp hp, visF_pos k _ r (getT_id htp ▸ hv)]
  simp only [setAnn_ann, Group.insert_head_self, Bool.false_eq_true, ↓reduceIte]

/-- the statement proved by induction on the fuel: the walk from a member `p` returns with more
members visited, `p` among them and, if `p` was new, its cached ancestors as well -/
def LinkVis (b : Onto) (k : Kind) (r : Nat) (S : List Nat) (fuel : Nat) : Prop :=
  ∀ (vis : Nat → Bool) (p : Nat), (∀ j, vis j = true → j ∈ S) → p ∈ S →
    S.countP (fun j => !vis j) < fuel →
    ∃ vis', link k r fuel (st b k r vis) p = .ok (st b k r vis') ∧
      (∀ j, vis j = true → vis' j = true) ∧ (∀ j, vis' j = true → j ∈ S) ∧ vis' p = true ∧
      (vis p = false → ∀ a ∈ allOf b.terms p, vis' a = true)

theorem linkFold_vis (b : Onto) (k : Kind) (r : Nat) (S : List Nat) (fuel : Nat)
    (ih : LinkVis b k r S fuel) :
    ∀ (as : List Nat) (vis : Nat → Bool), (∀ a ∈ as, a ∈ S) → (∀ j, vis j = true → j ∈ S) →
      S.countP (fun j => !vis j) < fuel →
      ∃ vis', linkFold (link k r fuel) as (st b k r vis) = .ok (st b k r vis') ∧
        (∀ j, vis j = true → vis' j = true) ∧ (∀ j, vis' j = true → j ∈ S) ∧
        ∀ a ∈ as, vis' a = true := by
  intro as
  induction as with
  | nil =>
    intro vis _ hsub _
    exact ⟨vis, rfl, fun _ h => h, hsub, fun _ h => nomatch h⟩
  | cons a as iha =>
    intro vis has hsub hc
    obtain ⟨v1, e1, m1, s1, a1, _⟩ := ih vis a hsub (has a List.mem_cons_self) hc
    have hc1 : S.countP (fun j => !v1 j) < fuel :=
      Nat.lt_of_le_of_lt (unvisited_le S vis v1 m1) hc
    obtain ⟨v2, e2, m2, s2, a2⟩ := iha v1 (fun x hx => has x (List.mem_cons_of_mem _ hx)) s1 hc1
    refine ⟨v2, ?_, fun j h => m2 j (m1 j h), s2, ?_⟩
    · rw [linkFold, e1, Res.bind_ok, e2]
    · intro x hx
      rcases List.mem_cons.1 hx with rfl | hx
      · exact m2 _ a1
      · exact a2 x hx

theorem link_vis (b : Onto) (k : Kind) (r : Nat) (S : List Nat) (hw : WalkOK k b.terms S r) :
    ∀ fuel, LinkVis b k r S fuel := by
  intro fuel
  induction fuel with
  | zero => intro vis p _ _ h; exact absurd h (Nat.not_lt_zero _)
  | succ fuel ih =>
    intro vis p hsub hp hc
    obtain ⟨tp, htp, hpm, hcl, hh⟩ := hw p hp
    cases hv : vis p with
    | true =>
      exact ⟨vis, link_visited b k r fuel vis p tp htp hpm hv, fun _ h => h, hsub, hv, fun h => nomatch h⟩
    | false =>
      have hm1 : ∀ j, vis j = true → (j == p || vis j) = true := fun j hj => by rw [hj, Bool.or_true]
      have hs1 : ∀ j, (j == p || vis j) = true → j ∈ S := by
        intro j hj
        rcases Bool.or_eq_true_iff.1 hj with hj | hj
        · exact beq_iff_eq.1 hj ▸ hp
        · exact hsub j hj
      have hp1 : (p == p || vis p) = true := by rw [beq_self_eq_true, Bool.true_or]
      have hc1 : S.countP (fun j => !(j == p || vis j)) < fuel :=
        Nat.lt_of_lt_of_le (unvisited_lt S vis (fun j => j == p || vis j) p hp hv hp1 hm1) (Nat.le_of_lt_succ hc)
      obtain ⟨v2, e2, m2, s2, a2⟩ :=
        linkFold_vis b k r S fuel ih tp.allParents _ hcl hs1 hc1
      refine ⟨v2, ?_, fun j h => m2 j (hm1 j h), s2, m2 p hp1, fun _ => allOf_eq htp ▸ a2⟩
      rw [link_unvisited b k r fuel vis p tp htp hpm hh hv, e2]

theorem link_members (b : Onto) (k : Kind) (r t : Nat) (tm : Term) (htm : getT b.terms t = some tm)
    (hw : WalkOK k b.terms (t :: tm.allParents) r) (hlen : tm.allParents.length ≤ b.terms.length) :
    link k r (b.terms.length + 2) b t
      = .ok (st b k r (fun j => (t :: tm.allParents).elem j)) := by
  -- nothing is visited yet, and the fuel exceeds the number of members
  obtain ⟨v, e, _, s, ht, ha⟩ := link_vis b k r _ hw (b.terms.length + 2) (fun _ => false) t
    (fun _ h => nomatch h) List.mem_cons_self
    (Nat.lt_of_le_of_lt List.countP_le_length (Nat.succ_lt_succ (Nat.lt_succ_of_le hlen)))
  rw [st_none] at e
  rw [e]
  refine congrArg (fun v => Res.ok (st b k r v)) (funext fun j => ?_)
  rw [Bool.eq_iff_iff, List.elem_eq_mem, decide_eq_true_iff]
  refine ⟨s j, fun h => ?_⟩
  rcases List.mem_cons.1 h with rfl | h
  · exact ht
  · exact ha rfl j (allOf_eq htm ▸ h)

/-! ### one call under the guard -/

theorem addTermToRec_fresh (o : Onto) (k : Kind) (name : List Char) (r t : Nat)
    (h : getR (o.recs k) r = none) :
    o.addTermToRec k name r t = o.setRecs k (o.recs k ++ [{ id := r, name := name, hpos := [t] }]) := by
  rw [addTermToRec, addRec, addR_of_none (r := { id := r, name := name }) h, recs_setRecs, setRecs_setRecs,
    modR_snoc_of_none _ { id := r, name := name } _ h]
  rfl

theorem recs_setTerms (o : Onto) (k : Kind) (ts : List Term) : (o.setTerms ts).recs k = o.recs k := by
  cases k <;> rfl

theorem setRecs_setTerms (o : Onto) (k : Kind) (ts : List Term) (v : List Rec) :
    (o.setTerms ts).setRecs k v = (o.setRecs k v).setTerms ts := by
  cases k <;> rfl

theorem setTerms_setTerms (o : Onto) (a b : List Term) : (o.setTerms a).setTerms b = o.setTerms b := rfl

/-- the guard as a proposition (`A` = the cached ancestors of `t`, ids `first … first+n`) -/
structure BulkOK (o : Onto) (k : Kind) (t : Nat) (A : List Nat) (first n : Nat) : Prop where
  len : A.length ≤ o.terms.length
  fresh : ∀ r ∈ o.recs k, r.id < first ∨ first + (n + 1) ≤ r.id
  walk : WalkOK k o.terms (t :: A) (first + n)
  term : ∃ tm, o.get t = some tm ∧ tm.allParents = A

theorem walkOK_of_memberOk (o : Onto) (k : Kind) (S : List Nat) (r : Nat)
    (h : S.all (memberOk o k S r) = true) : WalkOK k o.terms S r := by
  intro p hp
  have hm := List.all_eq_true.1 h p hp
  unfold memberOk at hm
  split at hm
  · simp at hm
  · rename_i tp htp
    obtain ⟨h2, h1⟩ := get_eq_some.1 htp
    simp only [Bool.and_eq_true, List.all_eq_true, List.elem_eq_mem, decide_eq_true_eq] at hm
    exact ⟨tp, h1, h2, hm.1, hm.2⟩

theorem bulkOK_of_guard (o : Onto) (k : Kind) (t : Nat) (tm : Term) (first n : Nat)
    (htm : o.get t = some tm) (hg : bulkGuard o k t tm.allParents first n = true) :
    BulkOK o k t tm.allParents first n := by
  unfold bulkGuard at hg
  simp only [Bool.and_eq_true, decide_eq_true_eq] at hg
  obtain ⟨h1, h2, h3⟩ := hg
  refine ⟨h1, ?_, walkOK_of_memberOk o k _ _ h3, tm, htm, rfl⟩
  intro r hr
  have := List.all_eq_true.1 h2 r hr
  simpa using this

/-- the state after the call for the record id `r` -/
def stepOnto (o : Onto) (k : Kind) (name : List Char) (t : Nat) (A : List Nat) (r : Nat) : Onto :=
  (o.setRecs k (o.recs k ++ [{ id := r, name := name, hpos := [t] }])).setTerms
    (o.terms.map (visF k o.terms r (fun j => (t :: A).elem j)))

theorem annotate_step (o : Onto) (k : Kind) (name : List Char) (t : Nat) (A : List Nat)
    (first n : Nat) (h : BulkOK o k t A first n) :
    o.annotate k (first + n) name t = .ok (stepOnto o k name t A (first + n)) := by
  obtain ⟨tm, htm, hA⟩ := h.term
  subst hA
  rw [annotate, htm, addTermToRec_fresh o k name (first + n) t
    (getR_none_of_outside h.fresh (Nat.le_add_right _ _) (Nat.lt_succ_self _))]
  -- the walk runs on the terms of `o`
  have hterms := terms_setRecs o k (o.recs k ++ [{ id := first + n, name := name, hpos := [t] }])
  have hw := h.walk
  have hlen := h.len
  have hget := (get_eq_some.1 htm).2
  rw [← hterms] at hw hlen hget
  rw [linkFuel, link_members _ k (first + n) t tm hget hw hlen, st, stepOnto, hterms]

/-! ### the guard after one call, and the composition of the closed forms -/

theorem stepOnto_terms (o : Onto) (k : Kind) (name : List Char) (t : Nat) (A : List Nat) (r : Nat) :
    (stepOnto o k name t A r).terms = o.terms.map (visF k o.terms r (fun j => (t :: A).elem j)) := rfl

theorem stepOnto_recs (o : Onto) (k : Kind) (name : List Char) (t : Nat) (A : List Nat) (r : Nat) :
    (stepOnto o k name t A r).recs k = o.recs k ++ [{ id := r, name := name, hpos := [t] }] := by
  unfold stepOnto
  rw [recs_setTerms, recs_setRecs]

theorem bulkOK_step (o : Onto) (k : Kind) (name : List Char) (t : Nat) (A : List Nat)
    (first n : Nat) (h : BulkOK o k t A first (n + 1)) :
    BulkOK (stepOnto o k name t A (first + (n + 1))) k t A first n := by
  have hwalk : WalkOK k (stepOnto o k name t A (first + (n + 1))).terms (t :: A) (first + n) := by
    intro p hp
    obtain ⟨tp, htp, hpm, hcl, _⟩ := h.walk p hp
    refine ⟨visF k o.terms (first + (n + 1)) (fun j => (t :: A).elem j) tp, ?_, hpm, ?_, ?_⟩
    · rw [stepOnto_terms, getT_visF, htp]; rfl
    · rw [visF_allParents]; exact hcl
    · -- a member carries the id of the call just made in front, which is above the next one
      have : (t :: A).elem tp.id = true := by rw [getT_id htp, List.elem_eq_mem]; exact decide_eq_true hp
      rw [visF_pos k _ _ this, setAnn_ann, headAbove]
      exact decide_eq_true (Nat.lt_succ_self _)
  refine ⟨?_, ?_, hwalk, ?_⟩
  · rw [stepOnto_terms, List.length_map]; exact h.len
  · intro r hr
    rw [stepOnto_recs] at hr
    rcases List.mem_append.1 hr with hr | hr
    · exact (h.fresh r hr).imp_right Nat.le_of_succ_le
    · rw [List.mem_singleton.1 hr]
      exact Or.inr (Nat.le_refl _)
  · obtain ⟨tm, htm, hA⟩ := h.term
    obtain ⟨h2, h1⟩ := get_eq_some.1 htm
    refine ⟨visF k o.terms (first + (n + 1)) (fun j => (t :: A).elem j) tm, ?_, ?_⟩
    · rw [get_eq_getT_of_lt _ h2, stepOnto_terms, getT_visF, h1]; rfl
    · rw [visF_allParents]; exact hA

theorem annFirst_step (k : Kind) (ts : List Term) (r : Nat) (S : List Nat) (u : Term) (hu : u ∈ ts)
    (hS : S.elem u.id = true) :
    annFirst k (ts.map (visF k ts r (fun j => S.elem j))) u.id = r :: annFirst k ts u.id := by
  -- the first term with the id of `u` is a member like `u`
  obtain ⟨u0, hu0⟩ := Option.isSome_iff_exists.1 ((getT_isSome_iff ts u.id).2 (List.mem_map_of_mem hu))
  have hS0 : S.elem u0.id = true := by rw [getT_id hu0]; exact hS
  rw [annFirst_eq (by rw [getT_visF, hu0]; rfl), visF_pos k ts r hS0, setAnn_ann, getT_id hu0]

theorem bulkTerm_step (k : Kind) (ts : List Term) (r : Nat) (S ids : List Nat) (u : Term)
    (hu : u ∈ ts) :
    bulkTerm k S ids (ts.map (visF k ts r (fun j => S.elem j))) (visF k ts r (fun j => S.elem j) u)
      = bulkTerm k S (ids ++ [r]) ts u := by
  unfold bulkTerm
  rw [visF_id]
  cases hS : S.elem u.id with
  | false => rw [if_neg Bool.false_ne_true, if_neg Bool.false_ne_true, visF_neg k ts r hS]
  | true =>
    rw [if_pos rfl, if_pos rfl, annFirst_step k ts r S u hu hS, visF_pos k ts r hS, setAnn_setAnn,
      List.append_assoc, List.singleton_append]

theorem annotateBulk_step (o : Onto) (k : Kind) (name : List Char) (t : Nat) (A : List Nat)
    (first n : Nat) :
    annotateBulk (stepOnto o k name t A (first + (n + 1))) k name t A first (n + 1)
      = annotateBulk o k name t A first (n + 1 + 1) := by
  unfold annotateBulk
  rw [stepOnto_recs, stepOnto_terms]
  unfold stepOnto
  rw [setRecs_setTerms, setTerms_setTerms, setRecs_setRecs, List.map_map, Function.comp_def, List.append_assoc]
  rw [List.range'_1_concat (s := first) (n := n + 1)]
  congr 1
  exact List.map_congr_left fun u hu => bulkTerm_step k o.terms (first + (n + 1)) (t :: A) _ u hu

theorem stepOnto_eq_bulk (o : Onto) (k : Kind) (name : List Char) (t : Nat) (A : List Nat)
    (first : Nat) : stepOnto o k name t A (first + 0) = annotateBulk o k name t A first 1 := by
  unfold stepOnto annotateBulk
  congr 1

theorem annotateRange_bulk (k : Kind) (name : List Char) (t : Nat) (A : List Nat) (first : Nat) :
    ∀ (n : Nat) (o : Onto), BulkOK o k t A first n →
      annotateRange o k name t first (n + 1) = .ok (annotateBulk o k name t A first (n + 1)) := by
  intro n
  induction n with
  | zero =>
    intro o h
    rw [annotateRange, annotate_step o k name t A first 0 h, Res.bind_ok, annotateRange,
      stepOnto_eq_bulk]
  | succ n ih =>
    intro o h
    rw [annotateRange, annotate_step o k name t A first (n + 1) h, Res.bind_ok,
      ih _ (bulkOK_step o k name t A first n h), annotateBulk_step]

theorem annotateRangeFast_eq (o : Onto) (k : Kind) (name : List Char) (t first count : Nat) :
    annotateRangeFast o k name t first count = annotateRange o k name t first count := by
  cases count with
  | zero => rfl
  | succ n =>
    rw [annotateRangeFast]
    split
    · rfl
    · rename_i tm htm
      split
      · rename_i hg
        exact (annotateRange_bulk k name t tm.allParents first n o
          (bulkOK_of_guard o k t tm first n htm hg)).symm
      · rfl

end Onto
end Hpo
