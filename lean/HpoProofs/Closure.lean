import Mathlib.Logic.Relation
import HpoProofs.Arena
/-!
`connect_all_terms` computes exactly the transitive closure of the parent relation.

The memoised recursion `create_cache_of_grandparents` / `all_grandparents` with the
`parents_cached` heuristic is analysed as a state machine over the arena: the invariant `Good`
says every `all_parents` field is either still empty or already the exact closure; the heuristic
is exact because a computed closure of a term with parents contains those parents (is non-empty).
-/
namespace Hpo
open Relation Group

section
variable (par : Nat → List Nat)

/-- the is_a relation of `par`: `p` is a direct parent of `c`. `par` is the parents function of the arena,
fixed while caching (`Static.frame`): caching writes `all_parents` fields only. -/
def E (c p : Nat) : Prop := p ∈ par c

/-- what never changes while caching: parents fields, referential closure, id range -/
structure Static (ts : List Term) : Prop where
  frame : ∀ j, parentsOf ts j = par j
  closed : ∀ j p, p ∈ par j → (getT ts p).isSome
  small : ∀ j, (getT ts j).isSome → j < maxId

/-- the cache of `j` is final: its `all_parents` field holds exactly the ancestors of `j` -/
def Computed (ts : List Term) (j : Nat) : Prop := ∀ a, a ∈ allOf ts j ↔ TransGen (E par) j a

def Good (ts : List Term) : Prop := ∀ j, (allOf ts j = [] ∨ Computed par ts j) ∧ Sorted (allOf ts j)

/-- `ts'` differs from `ts` only in `all_parents` fields -/
def Upd (ts ts' : List Term) : Prop :=
  ts'.map (·.id) = ts.map (·.id) ∧
  ∀ j, getT ts' j = (getT ts j).map (fun t => { t with allParents := allOf ts' j })

/-- what any sequence of cache writes does (a preorder: `CacheStep.refl`, `.trans`): only `all_parents`
fields change, and a cache that was final stays final; `CachePost` adds what one call achieves -/
structure CacheStep (o o' : Onto) : Prop where
  rest : o' = { o with terms := o'.terms }
  upd : Upd o.terms o'.terms
  mono : ∀ j, Computed par o.terms j → Computed par o'.terms j

/-- outcome of one `create_cache_of_grandparents(i)` -/
structure CachePost (o o' : Onto) (i : Nat) : Prop where
  rest : o' = { o with terms := o'.terms }
  upd : Upd o.terms o'.terms
  good : Good par o'.terms
  comp : Computed par o'.terms i
  mono : ∀ j, Computed par o.terms j → Computed par o'.terms j

variable {par}

theorem Upd.refl (ts : List Term) : Upd ts ts := by
  refine ⟨rfl, fun j => ?_⟩
  cases h : getT ts j with
  | none => rfl
  | some t => rw [allOf_eq h]; rfl

theorem Upd.isSome {ts ts' : List Term} (h : Upd ts ts') (j : Nat) :
    (getT ts' j).isSome = (getT ts j).isSome := by
  rw [h.2 j, Option.isSome_map]

theorem Upd.field {ts ts' : List Term} (h : Upd ts ts') {γ : Type} {c : Term → γ} (d : γ)
    (hc : ∀ t v, c { t with allParents := v } = c t) (j : Nat) :
    ((getT ts' j).map c).getD d = ((getT ts j).map c).getD d :=
  field_congr (h.2 j) fun t => hc t _

theorem Upd.parents_eq {ts ts' : List Term} (h : Upd ts ts') (j : Nat) :
    parentsOf ts' j = parentsOf ts j :=
  h.field [] (fun _ _ => rfl) j

theorem Upd.children_eq {ts ts' : List Term} (h : Upd ts ts') (j : Nat) :
    childrenOf ts' j = childrenOf ts j :=
  h.field [] (fun _ _ => rfl) j

theorem Upd.trans {a b c : List Term} (h1 : Upd a b) (h2 : Upd b c) : Upd a c := by
  refine ⟨h2.1.trans h1.1, fun j => ?_⟩
  rw [h2.2 j, h1.2 j, Option.map_map]; rfl

theorem upd_setAll (ts : List Term) (i : Nat) (v : List Nat) :
    Upd ts (modT ts i (fun t' => { t' with allParents := v })) := by
  refine ⟨modT_ids _ _ _ (fun _ => rfl), fun j => ?_⟩
  have hg := getT_modT ts i j (fun t' => { t' with allParents := v }) (fun _ => rfl)
  cases h : getT ts j with
  | none => rw [hg, h]; rfl
  | some t => rw [h] at hg; rw [allOf_eq hg, hg]; dsimp only [Option.map_some]; split <;> rfl

theorem allOf_setAll_ne (ts : List Term) (i j : Nat) (v : List Nat) (h : j ≠ i) :
    allOf (modT ts i (fun t' => { t' with allParents := v })) j = allOf ts j := by
  rw [allOf, getT_modT_ne ts (fun t' => { t' with allParents := v }) (fun _ => rfl) h, allOf]

theorem allOf_setAll_same (ts : List Term) (i : Nat) (v : List Nat) (t : Term)
    (h : getT ts i = some t) :
    allOf (modT ts i (fun t' => { t' with allParents := v })) i = v := by
  rw [allOf, getT_modT_self ts i (fun t' => { t' with allParents := v }) (fun _ => rfl), h]; rfl

theorem Static.upd {ts ts' : List Term} (hs : Static par ts) (h : Upd ts ts') : Static par ts' :=
  ⟨fun j => by rw [h.parents_eq]; exact hs.frame j,
   fun j p hp => by rw [h.isSome]; exact hs.closed j p hp,
   fun j hj => hs.small j (by rw [← h.isSome]; exact hj)⟩

theorem transGen_iff (i a : Nat) :
    TransGen (E par) i a ↔ ∃ p ∈ par i, p = a ∨ TransGen (E par) p a := by
  rw [TransGen.head'_iff]
  refine exists_congr fun p => and_congr_right fun _ => ?_
  rw [reflTransGen_iff_eq_or_transGen, eq_comm]

/-- the `parents_cached` heuristic is exact on `Good` states -/
theorem computed_of_cached {ts : List Term} (hF : ∀ j, parentsOf ts j = par j) (hG : Good par ts)
    {p : Nat} {tp : Term} (hp : getT ts p = some tp) (hc : tp.parentsCached = true) :
    Computed par ts p := by
  rcases (hG p).1 with h0 | h
  · -- an empty cache of a term that counts as cached: the term has no parents
    intro a
    rw [h0, transGen_iff, ← hF p, parentsOf_eq hp]
    rw [allOf_eq hp] at h0
    simp only [Term.parentsCached, h0, List.isEmpty_nil, Bool.not_true, Bool.or_false,
      List.isEmpty_iff] at hc
    simp [hc]
  · exact h

theorem good_update {ts ts' : List Term} (hG : Good par ts) {i : Nat}
    (hne : ∀ j, j ≠ i → allOf ts' j = allOf ts j) (hs : Sorted (allOf ts' i)) (hi : Computed par ts' i) :
    Good par ts' ∧ ∀ j, Computed par ts j → Computed par ts' j := by
  have hmono : ∀ j, Computed par ts j → Computed par ts' j := fun j hj => by
    by_cases hji : j = i
    · exact hji ▸ hi
    · intro a; rw [hne j hji]; exact hj a
  refine ⟨fun j => ?_, hmono⟩
  by_cases hji : j = i
  · subst hji; exact ⟨Or.inr hi, hs⟩
  · rw [hne j hji]; exact ⟨(hG j).1.imp_right (hmono j), (hG j).2⟩

theorem CacheStep.refl (o : Onto) : CacheStep par o o := ⟨rfl, Upd.refl _, fun _ h => h⟩

theorem CacheStep.trans {a b c : Onto} (h1 : CacheStep par a b) (h2 : CacheStep par b c) :
    CacheStep par a c :=
  ⟨by rw [h2.rest, h1.rest], h1.upd.trans h2.upd, fun j hj => h2.mono j (h1.mono j hj)⟩

theorem CachePost.step {o o' : Onto} {i : Nat} (h : CachePost par o o' i) : CacheStep par o o' :=
  ⟨h.rest, h.upd, h.mono⟩

variable (par)

theorem cacheFold_post (fuel : Nat) (rank : Nat → Nat)
    (ih : ∀ (o : Onto) (p : Nat), Static par o.terms → Good par o.terms → (getT o.terms p).isSome →
      rank p < fuel → ∃ o', Onto.createCache fuel o p = .ok o' ∧ CachePost par o o' p) :
    ∀ (ps : List Nat) (o : Onto) (acc : List Nat), Static par o.terms → Good par o.terms →
      Sorted acc → (∀ p ∈ ps, (getT o.terms p).isSome ∧ rank p < fuel) →
      ∃ o' acc', Onto.cacheFold (Onto.createCache fuel) ps o acc = .ok (o', acc') ∧
        CacheStep par o o' ∧ Good par o'.terms ∧ Sorted acc' ∧
        ∀ a, a ∈ acc' ↔ a ∈ acc ∨ ∃ p ∈ ps, TransGen (E par) p a := by
  intro ps
  induction ps with
  | nil => intro o acc _ hG hS _; exact ⟨o, acc, rfl, CacheStep.refl o, hG, hS, by simp⟩
  | cons p ps ihp =>
    intro o acc hSt hG hS hps
    obtain ⟨hpres, hrk⟩ := hps p List.mem_cons_self
    obtain ⟨tp, htp⟩ := Option.isSome_iff_exists.1 hpres
    have hsmall : p < maxId := hSt.small p hpres
    -- either branch of the `parents_cached` test leaves `p` with its exact closure
    obtain ⟨o1, ho1, s1, hG1, hC1⟩ :
        ∃ o1, (if tp.parentsCached then Res.ok o else Onto.createCache fuel o p) = .ok o1 ∧
          CacheStep par o o1 ∧ Good par o1.terms ∧ Computed par o1.terms p := by
      by_cases hc : tp.parentsCached = true
      · exact ⟨o, if_pos hc, CacheStep.refl o, hG, computed_of_cached hSt.frame hG htp hc⟩
      · obtain ⟨o1, h1, p1⟩ := ih o p hSt hG hpres hrk
        exact ⟨o1, by rw [if_neg hc, h1], p1.step, p1.good, p1.comp⟩
    obtain ⟨tp1, htp1⟩ := Option.isSome_iff_exists.1 (by rw [s1.upd.isSome]; exact hpres)
    obtain ⟨o2, acc2, h2, s2, hG2, hS2, hm2⟩ :=
      ihp o1 (insertAll acc tp1.allParents) (hSt.upd s1.upd) hG1 (sorted_insertAll _ _ hS)
        fun q hq => by rw [s1.upd.isSome]; exact hps q (List.mem_cons_of_mem _ hq)
    refine ⟨o2, acc2, ?_, s1.trans s2, hG2, hS2, fun a => ?_⟩
    · simp only [Onto.cacheFold, getUnchecked_present htp hsmall, ho1, Res.bind_ok,
        getUnchecked_present htp1 hsmall, h2]
    · rw [hm2, mem_insertAll, ← allOf_eq htp1, hC1 a]
      simp only [List.mem_cons, exists_eq_or_imp, or_assoc]

theorem cache_post (rank : Nat → Nat) (hrank : ∀ c p, p ∈ par c → rank p < rank c)
    (hps : ∀ j, Sorted (par j)) :
    ∀ fuel (o : Onto) (i : Nat), Static par o.terms → Good par o.terms → (getT o.terms i).isSome →
      rank i < fuel → ∃ o', Onto.createCache fuel o i = .ok o' ∧ CachePost par o o' i := by
  intro fuel
  induction fuel with
  | zero => intro o i _ _ _ h; exact absurd h (Nat.not_lt_zero _)
  | succ fuel ih =>
    intro o i hSt hG hpres hr
    obtain ⟨t, ht⟩ := Option.isSome_iff_exists.1 hpres
    have hsmall : i < maxId := hSt.small i hpres
    have hpar : t.parents = par i := by rw [← hSt.frame i, parentsOf_eq ht]
    obtain ⟨o1, acc1, hf, s1, hG1, hS1, hm1⟩ :=
      cacheFold_post par fuel rank ih (par i) o [] hSt hG sorted_nil
        fun p hp => ⟨hSt.closed i p hp, Nat.lt_of_lt_of_le (hrank i p hp) (Nat.le_of_lt_succ hr)⟩
    obtain ⟨t1, ht1⟩ := Option.isSome_iff_exists.1 (by rw [s1.upd.isSome]; exact hpres)
    -- the field of `i` receives the union of the accumulator and the parents: its closure
    have hi : Computed par
        (modT o1.terms i fun t' => { t' with allParents := bitor acc1 (par i) }) i := fun a => by
      rw [allOf_setAll_same _ _ _ _ ht1, mem_bitor, hm1, transGen_iff]
      simp only [List.not_mem_nil, false_or, and_or_left, exists_or, exists_eq_right]
      exact or_comm
    obtain ⟨hG2, hmono⟩ := good_update hG1 (fun j hj => allOf_setAll_ne _ _ _ _ hj)
      (by rw [allOf_setAll_same _ _ _ _ ht1]; exact sorted_bitor _ _ hS1 (hps i)) hi
    exact ⟨{ o1 with terms := modT o1.terms i fun t' => { t' with allParents := bitor acc1 (par i) } },
      by simp only [Onto.createCache, getUnchecked_present ht hsmall, hpar, hf, Res.bind_ok,
        modUnchecked_present _ ht1 hsmall],
      by rw [s1.rest], s1.upd.trans (upd_setAll _ _ _), hG2, hi, fun j hj => hmono j (s1.mono j hj)⟩

/-- `connect_all_terms`: after the fold over all keys every term holds its exact closure -/
theorem connectFold_post (rank : Nat → Nat) (hrank : ∀ c p, p ∈ par c → rank p < rank c)
    (hps : ∀ j, Sorted (par j)) (fuel : Nat) (hfuel : ∀ j, rank j < fuel) :
    ∀ (is : List Nat) (o : Onto), Static par o.terms → Good par o.terms →
      (∀ i ∈ is, (getT o.terms i).isSome) →
      ∃ o', Onto.connectFold fuel is o = .ok o' ∧ CacheStep par o o' ∧ Good par o'.terms ∧
        ∀ i ∈ is, Computed par o'.terms i := by
  intro is
  induction is with
  | nil => intro o _ hG _; exact ⟨o, rfl, CacheStep.refl o, hG, by simp⟩
  | cons i is ih =>
    intro o hSt hG hpres
    obtain ⟨o1, h1, p1⟩ :=
      cache_post par rank hrank hps fuel o i hSt hG (hpres i List.mem_cons_self) (hfuel i)
    obtain ⟨o2, h2, s2, hG2, hC2⟩ := ih o1 (hSt.upd p1.upd) p1.good
      fun j hj => by rw [p1.upd.isSome]; exact hpres j (List.mem_cons_of_mem _ hj)
    refine ⟨o2, by rw [Onto.connectFold, h1, Res.bind_ok, h2], p1.step.trans s2, hG2, ?_⟩
    intro j hj
    rcases List.mem_cons.1 hj with rfl | hj
    · exact s2.mono _ p1.comp
    · exact hC2 j hj

end
end Hpo
