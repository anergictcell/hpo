import HpoProofs.RNum
import HpoProofs.Matrix
import HpoModel.Combine
/-!
Helper lemmas for C05: the pairwise matrix of `GroupSimilarity::calculate`, its rows and columns,
the result in terms of the row and column maxima, transposition and the caching adaptor for EVERY
numeric instance; maxima, sums and the three combiners over `RNum` (`ℝ` and every rounded
arithmetic together: the maxima only COMPARE, the sums, quotients and the final combination are
rounded operations, each monotone and exact on the small integers that occur as denominators);
the closed forms at `ℝ`.
-/
namespace Hpo
namespace Combine
open Hpo.Matrix

section generic
variable {F : Type}

theorem simRow_eq_map (sim : Nat → Nat → F) (a : Nat) (B : List Nat) :
    simRow sim a B = B.map (sim a) := by
  induction B with
  | nil => rfl
  | cons b bs ih => simp [simRow, ih]

theorem simData_eq_flatten (sim : Nat → Nat → F) (A B : List Nat) :
    simData sim A B = (A.map fun a => B.map (sim a)).flatten := by
  induction A with
  | nil => rfl
  | cons a as ih => rw [simData, ih, simRow_eq_map]; rfl

theorem simData_nil_right (sim : Nat → Nat → F) (A : List Nat) : simData sim A [] = [] := by
  rw [simData_eq_flatten]; simp

theorem simData_ne_nil (sim : Nat → Nat → F) (A B : List Nat) (hA : A ≠ []) (hB : B ≠ []) :
    simData sim A B ≠ [] := by
  obtain ⟨a, as, rfl⟩ := List.exists_cons_of_ne_nil hA
  obtain ⟨b, bs, rfl⟩ := List.exists_cons_of_ne_nil hB
  simp [simData, simRow]

theorem rowList_simData (sim : Nat → Nat → F) (A B : List Nat) (hB : B ≠ []) :
    rowList ⟨A.length, B.length, simData sim A B⟩ = some (A.map fun a => B.map (sim a)) := by
  rw [simData_eq_flatten]; exact rowList_table sim A B hB

theorem colList_simData (sim : Nat → Nat → F) (A B : List Nat) :
    colList ⟨A.length, B.length, simData sim A B⟩ = B.map fun b => A.map fun a => sim a b := by
  rw [simData_eq_flatten]; exact colList_table sim A B

/-- cache invariant: every stored value is the value of the wrapped similarity -/
def MemoOK (sim : Nat → Nat → F) (memo : Memo F) : Prop :=
  ∀ a b v, memoGet memo a b = some v → v = sim a b

theorem memoOK_nil (sim : Nat → Nat → F) : MemoOK sim [] := by
  intro a b v h; simp [memoGet] at h

theorem cachedCalc_spec (sim : Nat → Nat → F) (memo : Memo F) (a b : Nat) (h : MemoOK sim memo) :
    (cachedCalc sim memo a b).1 = sim a b ∧ MemoOK sim (cachedCalc sim memo a b).2 := by
  unfold cachedCalc
  cases hg : memoGet memo a b with
  | some v => exact ⟨h a b v hg, h⟩
  | none =>
    refine ⟨rfl, ?_⟩
    intro a' b' v hv
    simp only [memoGet] at hv
    split at hv
    · rename_i hk
      injection hv with hv
      rw [← hv, hk.1, hk.2]
    · exact h a' b' v hv

theorem simRowM_spec (sim : Nat → Nat → F) (a : Nat) : ∀ (B : List Nat) (memo : Memo F),
    MemoOK sim memo → (simRowM sim a B memo).1 = simRow sim a B ∧ MemoOK sim (simRowM sim a B memo).2 := by
  intro B
  induction B with
  | nil => intro memo h; exact ⟨rfl, h⟩
  | cons b bs ih =>
    intro memo h
    obtain ⟨h1, h2⟩ := cachedCalc_spec sim memo a b h
    obtain ⟨h3, h4⟩ := ih _ h2
    simp only [simRowM, simRow]
    exact ⟨by rw [h1, h3], h4⟩

theorem simDataM_spec (sim : Nat → Nat → F) (B : List Nat) : ∀ (A : List Nat) (memo : Memo F),
    MemoOK sim memo → (simDataM sim A B memo).1 = simData sim A B ∧ MemoOK sim (simDataM sim A B memo).2 := by
  intro A
  induction A with
  | nil => intro memo h; exact ⟨rfl, h⟩
  | cons a as ih =>
    intro memo h
    obtain ⟨h1, h2⟩ := simRowM_spec sim a B memo h
    obtain ⟨h3, h4⟩ := ih _ h2
    simp only [simDataM, simData]
    exact ⟨by rw [h1, h3], h4⟩

end generic

section num
variable {F : Type} [Num F]

/-- maximum of a non-empty list as the code computes it (`ofNat 0` for the empty list, never used);
`g` for generic: the comparison fold `maxGo`, at any numeric instance -/
def gmax : List F → F
  | [] => Num.ofNat 0
  | x :: xs => maxGo x xs

theorem maxGo_eq_foldl (a : F) (l : List F) :
    maxGo a l = l.foldl (fun a b => if Num.lt b a then a else b) a := by
  induction l generalizing a with
  | nil => rfl
  | cons b bs ih => exact ih _

theorem sumGo_eq_foldl (acc : F) (l : List F) : sumGo acc l = l.foldl Num.add acc := by
  induction l generalizing acc with
  | nil => rfl
  | cons x xs ih => exact ih _

theorem reduceMax_gmax (l : List F) (h : l ≠ []) : reduceMax l = some (gmax l) := by
  cases l with
  | nil => exact absurd rfl h
  | cons x xs => rfl

theorem gmax_mem (l : List F) (h : l ≠ []) : gmax l ∈ l := by
  cases l with
  | nil => exact absurd rfl h
  | cons x xs =>
    rw [gmax, maxGo_eq_foldl]
    exact List.mem_cons.2 (foldl_sel_mem (fun a b => ite_eq_or_eq _ _ _) xs x)

theorem maxes_map {α : Type} (f : α → List F) (l : List α) (h : ∀ a ∈ l, f a ≠ []) :
    maxes (l.map f) = some (l.map fun a => gmax (f a)) := by
  induction l with
  | nil => rfl
  | cons a as ih =>
    have h1 := reduceMax_gmax (f a) (h a (by simp))
    have h2 := ih (fun x hx => h x (by simp [hx]))
    simp [maxes, h1, h2]

theorem calculate_nil (cb : Combiner) (r c : Nat) :
    calculate cb (⟨r, c, []⟩ : Matrix F) = .ok (some (Num.ofNat 0)) := rfl

theorem calculate_of_ne_nil (cb : Combiner) (m : Matrix F) (hd : m.data ≠ []) :
    calculate cb m = combine cb m := by
  rw [calculate, Matrix.isEmpty, List.isEmpty_eq_false_iff.2 hd]; rfl

theorem calculate_panic (cb : Combiner) (m : Matrix F) (hd : m.data ≠ [])
    (h16 : ¬ (m.rows ≤ 65535 ∧ m.cols ≤ 65535)) : calculate cb m = .panic := by
  rw [calculate_of_ne_nil cb m hd, combine, if_pos]
  rcases not_and_or.1 h16 with h | h <;> simp [fitsU16, h]

theorem calculate_ok (cb : Combiner) (m : Matrix F) (hd : m.data ≠ []) (hr : m.rows ≤ 65535)
    (hc : m.cols ≤ 65535) {rm cm : List F} (hrm : rowMaxes m = some rm) (hcm : colMaxes m = some cm) :
    calculate cb m = .ok (combineWith cb m.rows m.cols rm cm) := by
  rw [calculate_of_ne_nil cb m hd, combine, hrm, hcm, if_neg]
  simp [fitsU16, hr, hc]

theorem groupSimilarity_eq_gmax (cb : Combiner) (sim : Nat → Nat → F) (A B : List Nat)
    (hA : A ≠ []) (hB : B ≠ []) (hA16 : A.length ≤ 65535) (hB16 : B.length ≤ 65535) :
    groupSimilarity cb sim A B = .ok (combineWith cb A.length B.length
      (A.map fun a => gmax (B.map (sim a))) (B.map fun b => gmax (A.map fun a => sim a b))) := by
  refine calculate_ok cb _ (simData_ne_nil sim A B hA hB) hA16 hB16 ?_ ?_
  · rw [rowMaxes, rowList_simData sim A B hB, Option.bind_some]
    exact maxes_map _ A fun a _ => mt List.map_eq_nil_iff.1 hB
  · rw [colMaxes, colList_simData]
    exact maxes_map _ B fun b _ => mt List.map_eq_nil_iff.1 hA

theorem calculate_eq (cb : Combiner) (r c : Nat) (data : List F) (h : data.length = r * c)
    (hr16 : r ≤ 65535) (hc16 : c ≤ 65535) :
    calculate cb ⟨r, c, data⟩ =
      if data = [] then .ok (some (Num.ofNat 0))
      else .ok (combineWith cb r c
        ((List.range r).map fun i => gmax ((data.drop (i * c)).take c))
        ((List.range c).map fun j => gmax (stepGo c j data))) := by
  by_cases hd : data = []
  · rw [if_pos hd, hd]; exact calculate_nil cb r c
  · have hlen : 0 < r * c := h ▸ List.length_pos_iff.2 hd
    have hc : 0 < c := Nat.pos_of_mul_pos_left hlen
    have hr : 0 < r := Nat.pos_of_mul_pos_right hlen
    rw [if_neg hd]
    refine calculate_ok cb _ hd hr16 hc16 ?_ ?_
    · rw [rowMaxes, rowList_eq r c data h hc, Option.bind_some]
      refine maxes_map _ _ fun i hi hnil => ?_
      have := length_slice h (List.mem_range.1 hi)
      rw [hnil] at this
      exact absurd this hc.ne
    · rw [colMaxes, colList_eq]
      refine maxes_map _ _ fun j hj hnil => ?_
      have := length_stepGo h (List.mem_range.1 hj)
      rw [hnil] at this
      exact absurd this hr.ne

theorem groupSimilarity_empty (cb : Combiner) (sim : Nat → Nat → F) (A B : List Nat)
    (h : A = [] ∨ B = []) : groupSimilarity cb sim A B = .ok (some (Num.ofNat 0)) := by
  have hd : simData sim A B = [] := by
    rcases h with rfl | rfl
    · rfl
    · exact simData_nil_right sim A
  rw [groupSimilarity, hd]; exact calculate_nil cb _ _

theorem groupSimilarity_panic (cb : Combiner) (sim : Nat → Nat → F) (A B : List Nat)
    (hA : A ≠ []) (hB : B ≠ []) (h16 : ¬ (A.length ≤ 65535 ∧ B.length ≤ 65535)) :
    groupSimilarity cb sim A B = .panic :=
  calculate_panic cb _ (simData_ne_nil sim A B hA hB) h16

theorem runCached_eq (cb : Combiner) (sim : Nat → Nat → F) (qs : List (List Nat × List Nat))
    (memo : Memo F) (h : MemoOK sim memo) : runCached cb sim qs memo = runPlain cb sim qs := by
  induction qs generalizing memo with
  | nil => rfl
  | cons q qs ih =>
    obtain ⟨h1, h2⟩ := simDataM_spec sim q.2 q.1 memo h
    simp only [runCached, runPlain, groupSimilarityM, groupSimilarity]
    rw [h1, ih _ h2]

section swap
variable (hadd : ∀ a b : F, Num.add a b = Num.add b a) (hmax : ∀ a b : F, fmax a b = fmax b a)
include hadd hmax

theorem combineWith_swap (cb : Combiner) (r c : Nat) (rm cm : List F) :
    combineWith cb c r cm rm = combineWith cb r c rm cm := by
  cases cb
  · simp only [combineWith, funSimAvg]
    cases (Num.div? (sum rm) (Num.ofNat r) : Option F) <;>
      cases (Num.div? (sum cm) (Num.ofNat c) : Option F) <;>
      simp only [Option.bind_some, Option.bind_none]
    rw [hadd]
  · simp only [combineWith, funSimMax]
    cases (Num.div? (sum rm) (Num.ofNat r) : Option F) <;>
      cases (Num.div? (sum cm) (Num.ofNat c) : Option F) <;>
      simp only [Option.bind_some, Option.bind_none, Option.map_some, Option.map_none]
    rw [hmax]
  · simp only [combineWith, bma]
    rw [hadd (sum cm), hadd (Num.ofNat c)]

/-- the matrix of `(B, A)` for the transposed table is the transpose of the matrix of `(A, B)`: each
row of the one IS a column of the other, element order included, so the comparison-based maxima
(which depend on the position of a NaN) are computed on identical lists and no order law is needed -/
theorem groupSimilarity_transpose (cb : Combiner) (sim : Nat → Nat → F) (A B : List Nat) :
    groupSimilarity cb sim A B = groupSimilarity cb (fun x y => sim y x) B A := by
  by_cases hA : A = []
  · rw [groupSimilarity_empty cb _ A B (Or.inl hA), groupSimilarity_empty cb _ B A (Or.inr hA)]
  by_cases hB : B = []
  · rw [groupSimilarity_empty cb _ A B (Or.inr hB), groupSimilarity_empty cb _ B A (Or.inl hB)]
  by_cases h16 : A.length ≤ 65535 ∧ B.length ≤ 65535
  · rw [groupSimilarity_eq_gmax cb _ A B hA hB h16.1 h16.2, groupSimilarity_eq_gmax cb _ B A hB hA h16.2 h16.1,
      combineWith_swap hadd hmax cb A.length B.length]
  · rw [groupSimilarity_panic cb _ A B hA hB h16,
      groupSimilarity_panic cb _ B A hB hA (fun h => h16 h.symm)]

theorem groupSimilarity_symm (cb : Combiner) (sim : Nat → Nat → F)
    (hs : ∀ x y, sim x y = sim y x) (A B : List Nat) :
    groupSimilarity cb sim A B = groupSimilarity cb sim B A := by
  have e : (fun x y => sim y x) = sim := funext fun x => funext fun y => hs y x
  rw [groupSimilarity_transpose hadd hmax cb sim A B, e]

end swap
end num

section rnum
open RNum
variable {F : Type} [Num F] [RNum F]

theorem val_sel' (a b : F) : val (if Num.lt b a then a else b) = max (val a) (val b) := by
  rw [max_comm]; exact val_sel b a

theorem gmax_isGreatest (l : List F) (h : l ≠ []) : gmax l ∈ l ∧ ∀ x ∈ l, val x ≤ val (gmax l) := by
  refine ⟨gmax_mem l h, ?_⟩
  cases l with
  | nil => exact absurd rfl h
  | cons y ys =>
    intro x hx
    rw [gmax, maxGo_eq_foldl]
    rcases List.mem_cons.1 hx with rfl | hx
    · exact le_foldl_sel val_sel' _ _
    · exact mem_le_foldl_sel val_sel' _ _ _ hx

theorem sum_nonneg (l : List F) (hl : ∀ x ∈ l, 0 ≤ val x) : 0 ≤ val (sum l) := by
  rw [sum, sumGo_eq_foldl]; exact foldl_add_nonneg l hl _ val_zero.ge

theorem sum_le (l : List F) (hl : ∀ x ∈ l, val x ≤ 1) (hk : l.length ≤ 2 ^ 24) :
    val (sum l) ≤ val (Num.ofNat l.length : F) := by
  have := foldl_add_le l hl (Num.ofNat 0) 0 (by rw [val_zero, Nat.cast_zero])
    (by rwa [Nat.zero_add])
  rw [Nat.zero_add] at this
  rw [sum, sumGo_eq_foldl, val_ofNat_small hk]; exact this

theorem fmax_eq_sel (a b : F) : fmax a b = if Num.lt a b then b else a := by
  rw [fmax, isNaN_eq, isNaN_eq]; rfl

theorem fmax_comm (a b : F) : fmax a b = fmax b a :=
  val_inj (by rw [fmax_eq_sel, fmax_eq_sel, val_sel, val_sel, max_comm])

theorem mean_defined_range (l : List F) (hn : 0 < l.length) (hn16 : l.length ≤ 65535) :
    ∃ q : F, Num.div? (sum l) (Num.ofNat l.length) = some q ∧
      ((∀ x ∈ l, 0 ≤ val x) → 0 ≤ val q) ∧ ((∀ x ∈ l, val x ≤ 1) → val q ≤ 1) := by
  obtain ⟨q, hq, q0, q1⟩ := div?_pos (sum l) (b := Num.ofNat l.length)
    (zero_lt_one.trans_le (one_le_val_ofNat hn))
  exact ⟨q, hq, fun h0 => q0 (sum_nonneg l h0), fun h1 => q1 (sum_le l h1 (Rounding.u16_le hn16))⟩

theorem combineWith_defined_range (cb : Combiner) (r c : Nat) (rm cm : List F)
    (hr : 0 < r) (hc : 0 < c) (hr16 : r ≤ 65535) (hc16 : c ≤ 65535)
    (hrl : rm.length = r) (hcl : cm.length = c) :
    ∃ v : F, combineWith cb r c rm cm = some v ∧
      ((∀ x ∈ rm, 0 ≤ val x) → (∀ x ∈ cm, 0 ≤ val x) → 0 ≤ val v) ∧
      ((∀ x ∈ rm, val x ≤ 1) → (∀ x ∈ cm, val x ≤ 1) → val v ≤ 1) := by
  subst hrl hcl
  obtain ⟨x, hx, hx0, hx1⟩ := mean_defined_range rm hr hr16
  obtain ⟨y, hy, hy0, hy1⟩ := mean_defined_range cm hc hc16
  cases cb
  · -- funSimAvg: `rnd (rnd (x + y) / 2)`
    obtain ⟨q, hq, q0, q1⟩ := div?_pos (Num.add x y) (b := Num.ofNat 2)
      (by rw [val_two]; exact zero_lt_two)
    refine ⟨q, by rw [combineWith, funSimAvg, hx, hy]; exact hq,
      fun a0 b0 => q0 (val_add_nonneg (hx0 a0) (hy0 b0)), fun a1 b1 => q1 ?_⟩
    rw [val_two, val_add]
    exact (R F).rnd_le_two ((add_le_add (hx1 a1) (hy1 b1)).trans_eq one_add_one_eq_two)
  · -- funSimMax: one of the two means
    refine ⟨fmax x y, by rw [combineWith, funSimMax, hx, hy]; rfl, fun a0 _ => ?_, fun a1 b1 => ?_⟩
    · rw [fmax_eq_sel, val_sel]; exact le_max_of_le_left (hx0 a0)
    · rw [fmax_eq_sel, val_sel]; exact max_le (hx1 a1) (hy1 b1)
  · -- bma: `rnd (rnd (Σrow + Σcol) / rnd (rnd r + rnd c))`
    obtain ⟨q, hq, q0, q1⟩ := div?_pos (Num.add (sum rm) (sum cm))
      (b := Num.add (Num.ofNat rm.length) (Num.ofNat cm.length))
      (zero_lt_one.trans_le <| one_le_val_add <|
        le_add_of_le_of_nonneg (one_le_val_ofNat hr) (val_ofNat_nonneg _))
    exact ⟨q, hq, fun a0 b0 => q0 (val_add_nonneg (sum_nonneg rm a0) (sum_nonneg cm b0)),
      fun a1 b1 => q1 (val_add_le_add (sum_le rm a1 (Rounding.u16_le hr16))
        (sum_le cm b1 (Rounding.u16_le hc16)))⟩

theorem groupSimilarity_defined_range (cb : Combiner) (sim : Nat → Nat → F) (A B : List Nat)
    (hA : A ≠ []) (hB : B ≠ []) (hA16 : A.length ≤ 65535) (hB16 : B.length ≤ 65535) :
    ∃ v : F, groupSimilarity cb sim A B = .ok (some v) ∧
      ((∀ x y, 0 ≤ val (sim x y)) → 0 ≤ val v) ∧ ((∀ x y, val (sim x y) ≤ 1) → val v ≤ 1) := by
  -- every maximum is an entry of the table
  have hmem : ∀ P : F → Prop, (∀ x y, P (sim x y)) →
      (∀ v ∈ A.map fun a => gmax (B.map (sim a)), P v) ∧
      (∀ v ∈ B.map fun b => gmax (A.map fun a => sim a b), P v) := by
    refine fun P hP => ⟨fun v hv => ?_, fun v hv => ?_⟩
    · obtain ⟨a, _, rfl⟩ := List.mem_map.1 hv
      obtain ⟨b, _, hb⟩ := List.mem_map.1 (gmax_mem (B.map (sim a)) (mt List.map_eq_nil_iff.1 hB))
      exact hb ▸ hP a b
    · obtain ⟨b, _, rfl⟩ := List.mem_map.1 hv
      obtain ⟨a, _, ha⟩ := List.mem_map.1 (gmax_mem (A.map fun a => sim a b) (mt List.map_eq_nil_iff.1 hA))
      exact ha ▸ hP a b
  obtain ⟨v, hv, h0, h1⟩ := combineWith_defined_range cb A.length B.length
    (A.map fun a => gmax (B.map (sim a))) (B.map fun b => gmax (A.map fun a => sim a b))
    (List.length_pos_iff.2 hA) (List.length_pos_iff.2 hB) hA16 hB16 (List.length_map _)
    (List.length_map _)
  exact ⟨v, by rw [groupSimilarity_eq_gmax cb sim A B hA hB hA16 hB16, hv],
    fun hs => h0 (hmem _ hs).1 (hmem _ hs).2, fun hs => h1 (hmem _ hs).1 (hmem _ hs).2⟩

end rnum

section real
open NumReal

/-- maximum of a non-empty list (0 for the empty list, never used); `l` for list: `foldl max`, in
which the closed forms of C05 over `ℝ` are written; it is `gmax` at `ℝ` (`lmax_eq_gmax`) -/
noncomputable def lmax : List ℝ → ℝ
  | [] => 0
  | x :: xs => xs.foldl max x

theorem lmax_eq_gmax : lmax = gmax := by
  funext l
  cases l with
  | nil => exact Nat.cast_zero.symm
  | cons x xs =>
    rw [gmax, maxGo_eq_foldl]
    exact congrArg (fun s => List.foldl s x xs) (funext fun a => funext fun b => (val_sel' a b).symm)

theorem sum_eq (l : List ℝ) : sum l = l.sum := by
  rw [sum, sumGo_eq_foldl, foldl_add_eq, ofNat_eq, Nat.cast_zero, zero_add]

theorem fmax_eq (a b : ℝ) : fmax a b = max a b := by
  rw [fmax_eq_sel]; exact RNum.val_sel a b

theorem funSimAvg_eq (r c : Nat) (rm cm : List ℝ) (hr : r ≠ 0) (hc : c ≠ 0) :
    funSimAvg r c rm cm = some ((rm.sum / r + cm.sum / c) / 2) := by
  rw [funSimAvg, sum_eq, sum_eq, ofNat_eq, ofNat_eq, ofNat_eq, div?_of_ne _ (Nat.cast_ne_zero.2 hr),
    Option.bind_some, div?_of_ne _ (Nat.cast_ne_zero.2 hc), Option.bind_some, add_eq, Nat.cast_ofNat]
  exact div?_of_ne _ two_ne_zero

theorem funSimMax_eq (r c : Nat) (rm cm : List ℝ) (hr : r ≠ 0) (hc : c ≠ 0) :
    funSimMax r c rm cm = some (max (rm.sum / r) (cm.sum / c)) := by
  rw [funSimMax, sum_eq, sum_eq, ofNat_eq, ofNat_eq, div?_of_ne _ (Nat.cast_ne_zero.2 hr),
    Option.bind_some, div?_of_ne _ (Nat.cast_ne_zero.2 hc), Option.map_some, fmax_eq]

theorem bma_eq (r c : Nat) (rm cm : List ℝ) (hr : r ≠ 0) :
    bma r c rm cm = some ((rm.sum + cm.sum) / ((r : ℝ) + c)) := by
  have hpos : (0 : ℝ) < (r : ℝ) + c :=
    add_pos_of_pos_of_nonneg (Nat.cast_pos.2 (Nat.pos_of_ne_zero hr)) (Nat.cast_nonneg c)
  rw [bma, sum_eq, sum_eq, add_eq, add_eq, ofNat_eq, ofNat_eq]
  exact div?_of_ne _ hpos.ne'

/-- the result in terms of the row maxima and column maxima of the pairwise similarities -/
theorem groupSimilarity_eq (cb : Combiner) (sim : Nat → Nat → ℝ) (A B : List Nat)
    (hA : A ≠ []) (hB : B ≠ []) (hA16 : A.length ≤ 65535) (hB16 : B.length ≤ 65535) :
    groupSimilarity cb sim A B = .ok (combineWith cb A.length B.length
      (A.map fun a => lmax (B.map (sim a))) (B.map fun b => lmax (A.map fun a => sim a b))) := by
  rw [lmax_eq_gmax]; exact groupSimilarity_eq_gmax cb sim A B hA hB hA16 hB16

end real

/-- a small arithmetic WITH a NaN (`none`): absorbing for the operations, every comparison with it
is false (non-vacuity of the instance-independent statements of C05) -/
def nanNum : Num (Option ℚ) where
  ofNat := fun n => some (n : ℚ)
  add := fun a b => a.bind fun x => b.map fun y => x + y
  sub := fun a b => a.bind fun x => b.map fun y => x - y
  mul := fun a b => a.bind fun x => b.map fun y => x * y
  div? := fun a b => if b = some 0 then none else some (a.bind fun x => b.map fun y => x / y)
  log := fun _ => none
  exp := fun _ => none
  neg := fun a => a.map fun x => -x
  isZero := fun a => decide (a = some 0)
  lt := fun a b => match a, b with
    | some x, some y => decide (x < y)
    | _, _ => false
  isNaN := fun a => a.isNone

theorem nanNum_add (a b : Option ℚ) :
    @Num.add _ nanNum a b = a.bind fun x => b.map fun y => x + y := rfl
theorem nanNum_lt_some (x y : ℚ) : @Num.lt _ nanNum (some x) (some y) = decide (x < y) := rfl
theorem nanNum_lt_none_left (b : Option ℚ) : @Num.lt _ nanNum none b = false := rfl
theorem nanNum_lt_none_right (a : Option ℚ) : @Num.lt _ nanNum a none = false := by cases a <;> rfl
theorem nanNum_isNaN (a : Option ℚ) : @Num.isNaN _ nanNum a = a.isNone := rfl
theorem nanNum_ofNat (n : ℕ) : @Num.ofNat _ nanNum n = some (n : ℚ) := rfl
theorem nanNum_div? (a b : Option ℚ) : @Num.div? _ nanNum a b =
    if b = some 0 then none else some (a.bind fun x => b.map fun y => x / y) := rfl

end Combine
end Hpo
