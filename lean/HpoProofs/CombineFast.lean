import HpoProofs.Combine
import HpoModel.CombineFast
/-!
`Combine.calculateOneRow` (closed form run by the driver for huge one-row matrices) is
`Combine.calculate` on the `1 × n` matrix.
-/
namespace Hpo
namespace Combine
open Hpo.Matrix
variable {F : Type} [Num F]

theorem calculateOneRow_eq (cb : Combiner) (data : List F) :
    calculateOneRow cb data = calculate cb { rows := 1, cols := data.length, data := data } := by
  cases data with
  | nil => rfl
  | cons x xs =>
    have hd : x :: xs ≠ [] := List.cons_ne_nil _ _
    rw [calculateOneRow]
    by_cases h16 : xs.length + 1 ≤ 65535
    · -- the `1 × n` matrix as a table: one row label, the data as column labels
      have hrl := rowList_table (fun (_ : Unit) (y : F) => y) [()] (x :: xs) hd
      have hcl := colList_table (fun (_ : Unit) (y : F) => y) [()] (x :: xs)
      rw [List.map_singleton, List.map_id', List.flatten_singleton] at hrl hcl
      -- its only row is the data, each of its columns is one cell
      have hrm : rowMaxes ⟨1, xs.length + 1, x :: xs⟩ = some [maxGo x xs] :=
        congrArg (·.bind maxes) hrl
      have hcm : colMaxes ⟨1, xs.length + 1, x :: xs⟩ = some (x :: xs) :=
        (congrArg maxes hcl).trans <|
          (maxes_map _ _ fun _ _ => List.cons_ne_nil _ _).trans (congrArg some (List.map_id' _))
      rw [if_neg (by rw [fitsU16, decide_eq_true h16]; exact Bool.false_ne_true)]
      exact (calculate_ok cb _ hd (by decide : 1 ≤ 65535) h16 hrm hcm).symm
    · rw [if_pos (by rw [fitsU16, decide_eq_false h16]; rfl)]
      exact (calculate_panic cb ⟨1, xs.length + 1, x :: xs⟩ hd fun h => h16 h.2).symm

end Combine
end Hpo
