import HpoProofs.SetOps
import HpoModel.Compare
/-! Lemmas about the comparison model (`HpoModel/Compare.lean`); core Lean only.

Terms and records are compared the same way: `added`/`removed` keep the entries of one side whose
key the lookup of the other side misses, `changed` joins the two sides on the key and keeps the
pairs that differ. -/
namespace Hpo
namespace Compare
open Group

/-- every term of the arena is the one its id resolves to (ids unique and inside the id table) -/
def KeysOk (o : Onto) : Prop := ∀ t ∈ o.terms, o.get t.id = some t
/-- every record is the one its id maps to (a `HashMap` has one record per id) -/
def RecKeysOk (rs : List Rec) : Prop := ∀ r ∈ rs, getR rs r.id = some r
/-- every direct parent id is a term (`parents()` does not panic) -/
def ParentsResolve (o : Onto) : Prop := ∀ t ∈ o.terms, (o.resolve t.parents).isSome = true

instance (o : Onto) : Decidable (KeysOk o) := by unfold KeysOk; infer_instance
instance (rs : List Rec) : Decidable (RecKeysOk rs) := by unfold RecKeysOk; infer_instance
instance (o : Onto) : Decidable (ParentsResolve o) := by unfold ParentsResolve; infer_instance

theorem KeysOk.get_iff {o : Onto} (h : KeysOk o) {i : Nat} {t : Term} :
    o.get i = some t ↔ t ∈ o.terms ∧ t.id = i :=
  ⟨fun hg => ⟨Onto.get_mem hg, Onto.get_id hg⟩, fun hm => hm.2 ▸ h t hm.1⟩

theorem RecKeysOk.get_iff {rs : List Rec} (h : RecKeysOk rs) {i : Nat} {r : Rec} :
    getR rs i = some r ↔ r ∈ rs ∧ r.id = i :=
  ⟨fun hg => ⟨getR_mem hg, getR_id hg⟩, fun hm => hm.2 ▸ h r hm.1⟩

theorem mem_absent_keys {α β : Type} (key : α → Nat) (look : Nat → Option β) (ids : List Nat)
    (b : List α) (h : ∀ x ∈ b, look (key x) = none ↔ key x ∉ ids) (i : Nat) :
    i ∈ (b.filter fun x => (look (key x)).isNone).map key ↔ i ∈ b.map key ∧ i ∉ ids := by
  simp only [List.mem_map, List.mem_filter, Option.isNone_iff_eq_none]
  constructor
  · rintro ⟨x, ⟨hx, hn⟩, rfl⟩
    exact ⟨⟨x, hx, rfl⟩, (h x hx).1 hn⟩
  · rintro ⟨⟨x, hx, rfl⟩, hn⟩
    exact ⟨x, ⟨hx, (h x hx).2 hn⟩, rfl⟩

theorem mem_diff (a b : List Nat) (x : Nat) : x ∈ diff a b ↔ x ∈ a ∧ x ∉ b := by
  simp [diff, List.mem_filter]

theorem diff_eq_nil (a b : List Nat) : diff a b = [] ↔ ∀ x ∈ a, x ∈ b := by
  simp only [List.eq_nil_iff_forall_not_mem, mem_diff, not_and, Decidable.not_not]

theorem diff_self (a : List Nat) : diff a a = [] := (diff_eq_nil a a).2 (fun _ h => h)

theorem sorted_diff (a b : List Nat) (h : Sorted a) : Sorted (diff a b) := h.filter _

theorem same_iff (a b : List Nat) :
    (∀ x, x ∈ a ↔ x ∈ b) ↔ (diff a b).isEmpty = true ∧ (diff b a).isEmpty = true := by
  rw [List.isEmpty_iff, List.isEmpty_iff, diff_eq_nil, diff_eq_nil]
  exact ⟨fun h => ⟨fun x => (h x).1, fun x => (h x).2⟩, fun h x => ⟨h.1 x, h.2 x⟩⟩

theorem parentIdSet_of_resolve {o : Onto} {t : Term} (h : (o.resolve t.parents).isSome = true) :
    parentIdSet o t = some (ofList t.parents) := by
  obtain ⟨ts, hr⟩ := Option.isSome_iff_exists.1 h
  rw [parentIdSet, hr, Option.map_some, Onto.resolve_ids hr]

/-- the delta of two terms whose parents resolve -/
def delta (l r : Onto) (tl tr : Term) : TermDelta :=
  mkDelta l r tl tr (ofList tl.parents) (ofList tr.parents)

/-- what `HpoTermDelta::new` counts as a difference -/
def Differ (l r : Onto) (tl tr : Term) : Prop :=
  tl.name ≠ tr.name ∨ ¬ (∀ p, p ∈ tl.parents ↔ p ∈ tr.parents) ∨ tl.obsolete ≠ tr.obsolete ∨
    replId l tl ≠ replId r tr

theorem termDelta_ok {l r : Onto} {tl tr : Term} (hl : (l.resolve tl.parents).isSome = true)
    (hr : (r.resolve tr.parents).isSome = true) :
    termDelta l r tl tr = .ok (if (delta l r tl tr).differs then some (delta l r tl tr) else none) := by
  unfold termDelta
  rw [parentIdSet_of_resolve hl, parentIdSet_of_resolve hr]
  rfl

theorem differs_iff (l r : Onto) (tl tr : Term) :
    (delta l r tl tr).differs = true ↔ Differ l r tl tr := by
  have hp := same_iff (ofList tl.parents) (ofList tr.parents)
  simp only [mem_ofList] at hp
  simp only [Differ, hp, TermDelta.differs, delta, mkDelta, Bool.or_eq_true, bne_iff_ne, ne_eq,
    Bool.not_eq_true', Decidable.not_and_iff_not_or_not, Bool.not_eq_true, or_assoc]

theorem not_differ_self (o : Onto) (t : Term) : ¬ Differ o o t t :=
  fun h => h.elim (· rfl) fun h => h.elim (· fun _ => Iff.rfl) fun h => h.elim (· rfl) (· rfl)

theorem changedFold_eq (l r : Onto) (hr : ParentsResolve r) (ts : List Term)
    (hl : ∀ t ∈ ts, (l.resolve t.parents).isSome = true) :
    changedFold l r ts = .ok (ts.filterMap fun tl => (r.get tl.id).bind fun tr =>
      if (delta l r tl tr).differs then some (delta l r tl tr) else none) := by
  induction ts with
  | nil => rfl
  | cons a ts ih =>
    have ih := ih fun t ht => hl t (List.mem_cons_of_mem _ ht)
    rw [changedFold, List.filterMap_cons]
    cases hg : r.get a.id with
    | none => exact ih
    | some tr =>
      simp only [termDelta_ok (hl a List.mem_cons_self) (hr tr (Onto.get_mem hg)), ih,
        Option.bind_some]
      cases (delta l r a tr).differs <;> rfl

theorem mem_changedFold (l r : Onto) (ts : List Term) (d : TermDelta) :
    (d ∈ ts.filterMap fun tl => (r.get tl.id).bind fun tr =>
      if (delta l r tl tr).differs then some (delta l r tl tr) else none) ↔
    ∃ tl ∈ ts, ∃ tr, r.get tl.id = some tr ∧ d = delta l r tl tr ∧ Differ l r tl tr := by
  simp only [List.mem_filterMap, Option.bind_eq_some_iff, Option.ite_none_right_eq_some,
    Option.some.injEq, differs_iff, eq_comm (b := d), and_comm (a := Differ ..)]

theorem ite_none_iff {α : Type} {c : Prop} [Decidable c] (a : α) :
    (if c then none else some a) = none ↔ c := by
  by_cases h : c <;> simp [h]

theorem mem_diff_ofList (a b : List Nat) (p : Nat) :
    p ∈ diff (ofList a) (ofList b) ↔ p ∈ a ∧ p ∉ b := by
  rw [mem_diff, mem_ofList, mem_ofList]

theorem isEmpty_diff_ofList (a b : List Nat) :
    (diff (ofList a) (ofList b)).isEmpty = true ↔ ∀ p ∈ a, p ∈ b := by
  simp only [List.isEmpty_iff, diff_eq_nil, mem_ofList]

theorem addedParents?_none (l r : Onto) (tl tr : Term) :
    (delta l r tl tr).addedParents? = none ↔ ∀ p ∈ tr.parents, p ∈ tl.parents :=
  (ite_none_iff _).trans (isEmpty_diff_ofList _ _)

theorem removedParents?_none (l r : Onto) (tl tr : Term) :
    (delta l r tl tr).removedParents? = none ↔ ∀ p ∈ tl.parents, p ∈ tr.parents :=
  (ite_none_iff _).trans (isEmpty_diff_ofList _ _)

/-- what `AnnotationDelta::delta` counts as a difference -/
def AnnDiffer (a b : Rec) : Prop := a.name ≠ b.name ∨ ¬ (∀ t, t ∈ a.hpos ↔ t ∈ b.hpos)

theorem annDiffers_iff (a b : Rec) : (mkAnnDelta a b).differs = true ↔ AnnDiffer a b := by
  simp only [AnnDiffer, same_iff, AnnDelta.differs, mkAnnDelta, Bool.or_eq_true, bne_iff_ne, ne_eq,
    Bool.not_eq_true', Decidable.not_and_iff_not_or_not, Bool.not_eq_true,
    or_comm (a := ¬ a.name = b.name), or_comm (a := (diff b.hpos a.hpos).isEmpty = false)]

theorem not_annDiffer_self (a : Rec) : ¬ AnnDiffer a a :=
  fun h => h.elim (· rfl) (· fun _ => Iff.rfl)

theorem mem_changedRecs (k : Kind) (l r : Onto) (d : AnnDelta) :
    d ∈ changedRecs k l r ↔
      ∃ a ∈ l.recs k, ∃ b, getR (r.recs k) a.id = some b ∧ d = mkAnnDelta a b ∧ AnnDiffer a b := by
  simp only [changedRecs, annDelta, List.mem_filterMap, Option.bind_eq_some_iff,
    Option.ite_none_right_eq_some, Option.some.injEq, annDiffers_iff, eq_comm (b := d),
    and_comm (a := AnnDiffer ..)]

def TermDelta.swap (d : TermDelta) : TermDelta :=
  { id := d.id, names := (d.names.2, d.names.1), addedParents := d.removedParents,
    removedParents := d.addedParents, obsolete := (d.obsolete.2, d.obsolete.1),
    replacement := (d.replacement.2, d.replacement.1) }

def AnnDelta.swap (d : AnnDelta) : AnnDelta :=
  { id := d.id, names := (d.names.2, d.names.1), nTerms := (d.nTerms.2, d.nTerms.1),
    addedTerms := d.removedTerms, removedTerms := d.addedTerms }

theorem TermDelta.swap_swap (d : TermDelta) : d.swap.swap = d := rfl
theorem AnnDelta.swap_swap (d : AnnDelta) : d.swap.swap = d := rfl

theorem delta_swap (l r : Onto) (tl tr : Term) (h : tr.id = tl.id) :
    delta r l tr tl = (delta l r tl tr).swap := by
  simp [delta, mkDelta, TermDelta.swap, h]

theorem mkAnnDelta_swap (a b : Rec) (h : b.id = a.id) : mkAnnDelta b a = (mkAnnDelta a b).swap := by
  simp [mkAnnDelta, AnnDelta.swap, h]

theorem Differ.symm {l r : Onto} {tl tr : Term} (h : Differ l r tl tr) : Differ r l tr tl :=
  h.imp Ne.symm (Or.imp (mt fun hh p => (hh p).symm) (Or.imp Ne.symm Ne.symm))

theorem AnnDiffer.symm {a b : Rec} (h : AnnDiffer a b) : AnnDiffer b a :=
  h.imp Ne.symm (mt fun hh p => (hh p).symm)

end Compare
end Hpo
