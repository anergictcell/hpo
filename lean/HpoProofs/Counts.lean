import HpoModel.Hypergeom
/-!
The counting map of `calculate_counts` (`bump`, `bumpAll`, `getC` of `HpoModel/Hypergeom.lean`) as a
map: lookups after a bump, the keys, their distinctness.  Core Lean only.
-/
namespace Hpo
namespace Hypergeom

def keys (m : List (Nat × Nat)) : List Nat := m.map (·.1)

theorem getC_bump (m : List (Nat × Nat)) (i j : Nat) :
    getC (bump m i) j = if i = j then some ((getC m j).getD 0 + 1) else getC m j := by
  fun_induction bump m i <;> grind [getC]

theorem keys_bump (m : List (Nat × Nat)) (i : Nat) :
    keys (bump m i) = if i ∈ keys m then keys m else keys m ++ [i] := by
  fun_induction bump m i <;> grind [keys]

theorem nodup_keys_bump (m : List (Nat × Nat)) (i : Nat) (h : (keys m).Nodup) :
    (keys (bump m i)).Nodup := by
  rw [keys_bump]
  split
  · exact h
  · rename_i hi
    exact List.nodup_append.2 ⟨h, List.pairwise_singleton _ _, fun a ha b hb => by
      rw [List.mem_singleton.1 hb]; exact fun e => hi (e ▸ ha)⟩

theorem getC_isSome_iff (m : List (Nat × Nat)) (j : Nat) : (getC m j).isSome ↔ j ∈ keys m := by
  fun_induction getC m j <;> grind [keys]

theorem getC_bumpAll (m : List (Nat × Nat)) (l : List Nat) (j : Nat) :
    getC (bumpAll m l) j =
      if (getC m j).isSome ∨ j ∈ l then some ((getC m j).getD 0 + l.count j) else none := by
  fun_induction bumpAll m l with
  | case1 m => cases h : getC m j <;> simp
  | case2 m i is ih =>
    rw [ih, getC_bump]
    by_cases hij : i = j
    · subst hij; simp; omega
    · have : ¬ j = i := fun h => hij h.symm
      simp [hij, this]

theorem nodup_keys_bumpAll (m : List (Nat × Nat)) (l : List Nat) (h : (keys m).Nodup) :
    (keys (bumpAll m l)).Nodup := by
  fun_induction bumpAll m l with
  | case1 m => exact h
  | case2 m i is ih => exact ih (nodup_keys_bump m i h)

end Hypergeom
end Hpo
