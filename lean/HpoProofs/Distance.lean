import HpoProofs.Path
/-! What C04 needs of `distance_to_term` besides its symmetry (`Onto.distToTerm_symm`, which needs `PathWF`):
a term is at distance 0 from itself whenever the call returns, on any ontology. -/
namespace Hpo
namespace Onto

theorem distToAnc_self (o : Onto) (a : Term) : distToAnc o.fuel o a a.id = .ok (some 0) := by
  simp [fuel, distToAnc]

theorem optMin_zero_right (x : Option Nat) : optMin x (some 0) = some 0 := by
  cases x with
  | none => rfl
  | some d => simp [optMin]

theorem optMin_zero_left (m : Option Nat) : optMin (some 0) m = some 0 := by
  cases m with
  | none => rfl
  | some d => simp [optMin]

/-- once the term itself has been met the running minimum is 0, and stays 0 -/
theorem termDists_self (o : Onto) (a : Term) (cs : List Nat) : ∀ (d : Option Nat),
    termDists o a a cs = .ok d → a.id ∈ cs → d = some 0 := by
  induction cs with
  | nil => intro _ _ h; cases h
  | cons c cs ih =>
    intro d h hmem
    -- a candidate that is skipped is not the term itself
    have skip : distToAnc o.fuel o a c = .ok none → a.id ∈ cs := fun hn =>
      (List.mem_cons.1 hmem).resolve_left fun e => nomatch (e ▸ hn).symm.trans (distToAnc_self o a)
    unfold termDists at h
    split at h
    · cases h
    · split at h
      · exact ih d h (skip ‹_›)
      · rename_i x hx
        -- both distances are the same call
        split at h
        · rename_i e; cases e
        · rename_i y e
          cases e
          split at h
          · rename_i m hm
            cases h
            rcases List.mem_cons.1 hmem with rfl | hmem
            · cases hx.symm.trans (distToAnc_self o a)
              exact optMin_zero_left m
            · rw [ih m hm hmem]
              exact optMin_zero_right _
          all_goals cases h
        all_goals rename_i e; cases e
      all_goals cases h

theorem distToTerm_self (o : Onto) (a : Term) (d : Option Nat) (h : o.distToTerm a a = .ok d) :
    d = some 0 := by
  unfold distToTerm at h
  exact termDists_self o a _ d h ((a.mem_allCommonAncestorIds a a.id).2 ⟨.inl rfl, .inl rfl⟩)

end Onto
end Hpo
