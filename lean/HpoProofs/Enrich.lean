import HpoProofs.Counts
/-!
Helper lemmas for `C06_records`: the counting maps of `calculate_counts` and the record loop of
`inner_*_enrichment`.
-/
namespace Hpo
namespace Hypergeom

theorem mem_iff_getC (m : List (Nat × Nat)) (h : (keys m).Nodup) (i c : Nat) :
    (i, c) ∈ m ↔ getC m i = some c := by
  induction m with
  | nil => exact ⟨fun h => (nomatch h), fun h => (nomatch h)⟩
  | cons e rest ih =>
    obtain ⟨i', c'⟩ := e
    rw [keys, List.map_cons, List.nodup_cons] at h
    rw [List.mem_cons, getC, ih h.2, Prod.mk.injEq]
    split
    · -- the first entry has the key, so no later one has
      rename_i hi
      subst hi
      have hn : getC rest i' = none := Option.not_isSome_iff_eq_none.1 fun hs =>
        h.1 ((getC_isSome_iff rest i').1 hs)
      rw [hn, Option.some.injEq]
      exact ⟨fun h => h.elim (fun h => h.2.symm) (fun h => nomatch h), fun h => Or.inl ⟨rfl, h.symm⟩⟩
    · rename_i hi
      exact ⟨fun h => h.elim (fun h => absurd h.1.symm hi) id, Or.inr⟩

theorem getC_counts (l : List Nat) (j : Nat) :
    getC (bumpAll [] l) j = if j ∈ l then some (l.count j) else none := by
  rw [getC_bumpAll]; simp [getC]

/-- `h`: a term keeps its annotation ids in a `HashSet` -/
theorem count_flatAnn (k : Kind) (ts : List Term) (r : Nat) (h : ∀ t ∈ ts, (t.ann k).Nodup) :
    (flatAnn k ts).count r = ts.countP (fun t => decide (r ∈ t.ann k)) := by
  induction ts with
  | nil => simp [flatAnn]
  | cons t ts ih =>
    have h1 := h t (List.mem_cons_self)
    have h2 : ∀ t' ∈ ts, (t'.ann k).Nodup := fun t' ht' => h t' (List.mem_cons_of_mem _ ht')
    rw [flatAnn, List.count_append, ih h2, List.countP_cons, h1.count, Nat.add_comm]
    simp only [decide_eq_true_eq]

theorem mem_flatAnn (k : Kind) (ts : List Term) (r : Nat) :
    r ∈ flatAnn k ts ↔ ∃ t ∈ ts, r ∈ t.ann k := by
  induction ts with
  | nil => simp [flatAnn]
  | cons t ts ih => simp [flatAnn, ih]

theorem nodup_keys_counts (k : Kind) (ts : List Term) : (keys (calculateCounts k ts).2).Nodup :=
  nodup_keys_bumpAll [] _ List.nodup_nil

theorem mem_counts (k : Kind) (ts : List Term) (hann : ∀ t ∈ ts, (t.ann k).Nodup) (i c : Nat) :
    (i, c) ∈ (calculateCounts k ts).2 ↔
      (∃ t ∈ ts, i ∈ t.ann k) ∧ c = ts.countP (fun t => decide (i ∈ t.ann k)) := by
  rw [mem_iff_getC _ (nodup_keys_counts k ts), calculateCounts, getC_counts,
    count_flatAnn k ts i hann, ← mem_flatAnn]
  split
  · rename_i h; simp only [h, true_and, Option.some.injEq, eq_comm]
  · rename_i h; simp only [h, false_and, reduceCtorEq]

/-- what the record loop returns when no lookup fails: one record per entry with a positive count -/
def expected (bg sc : List (Nat × Nat)) : List Enr :=
  (sc.filter fun e => e.2 ≠ 0).map fun e => { id := e.1, count := e.2, K := (getC bg e.1).getD 0 }

theorem inner_eq (N n : Nat) (bg sc : List (Nat × Nat)) (hn : n ≤ N)
    (h : ∀ e ∈ sc, e.2 ≠ 0 → ∃ K, getC bg e.1 = some K ∧ K ≤ N) :
    inner N n bg sc = .ok (expected bg sc) := by
  induction sc with
  | nil => rfl
  | cons e rest ih =>
    obtain ⟨id, c⟩ := e
    have ih' := ih (fun e he => h e (List.mem_cons_of_mem _ he))
    by_cases hc : c = 0
    · simp [inner, expected, hc, ih']
    · obtain ⟨K, hK, hKN⟩ := h (id, c) (List.mem_cons_self) hc
      have hv : validParams N K n = true := by simp [validParams, hKN, hn]
      simp [inner, expected, hc, hK, hv, ih']

theorem mem_expected (bg sc : List (Nat × Nat)) (e : Enr) :
    e ∈ expected bg sc ↔ ∃ c, (e.id, c) ∈ sc ∧ c ≠ 0 ∧ e.count = c ∧ e.K = (getC bg e.id).getD 0 := by
  simp only [expected, List.mem_map, List.mem_filter, decide_eq_true_eq, Prod.exists]
  constructor
  · rintro ⟨i, c, ⟨h1, h2⟩, rfl⟩; exact ⟨c, h1, h2, rfl, rfl⟩
  · rintro ⟨c, h1, h2, h3, h4⟩; exact ⟨e.id, c, ⟨h1, h2⟩, by cases e; simp_all⟩

theorem ids_expected_sublist (bg sc : List (Nat × Nat)) :
    ((expected bg sc).map (·.id)).Sublist (keys sc) := by
  rw [expected, List.map_map]
  exact List.filter_sublist.map _

theorem mem_ids_expected (bg sc : List (Nat × Nat)) (r : Nat) :
    r ∈ (expected bg sc).map (·.id) ↔ ∃ c, (r, c) ∈ sc ∧ c ≠ 0 := by
  simp only [expected, List.map_map, List.mem_map, List.mem_filter, decide_eq_true_eq,
    Function.comp_def, Prod.exists, exists_and_right, exists_eq_right]

end Hypergeom
end Hpo
