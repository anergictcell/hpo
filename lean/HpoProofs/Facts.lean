import HpoProofs.Lookup
/-!
Fact-level characterisation of the term-level builder state: after `new_term` for a list of term
facts followed by `add_parent` for a list of edge facts (the typestate order), every observable
field of every term is a function of the *sets* of facts — independent of their order.
-/
namespace Hpo

/-- a term fact: what `new_term` (or a binary / obo term record) supplies -/
structure TermFact where
  name : List Char
  id : Nat
  obsolete : Bool := false
  replacement : Option Nat := none
deriving Repr, DecidableEq

def TermFact.op (f : TermFact) : BOp := .term f.name f.id f.obsolete f.replacement
def TermFact.term (f : TermFact) : Term :=
  { id := f.id, name := f.name, obsolete := f.obsolete, replacement := f.replacement }

/-- an is_a fact `(parent, child)` -/
abbrev EdgeFact := Nat × Nat
def edgeOp (e : EdgeFact) : BOp := .parent e.1 e.2

theorem runB_append (a b : List BOp) (o : Onto) :
    runB (a ++ b) o = (runB a o).bind (runB b) := by
  induction a generalizing o with
  | nil => simp [runB]
  | cons x xs ih =>
    simp only [List.cons_append, runB]
    cases applyB o x with
    | none => rfl
    | some o' => simp [ih]

theorem runB_terms (fs : List TermFact) : ∀ o : Onto, runB (fs.map TermFact.op) o =
    (C10.insertAll (fs.map TermFact.term) o.terms).map fun ts => { o with terms := ts } := by
  induction fs with
  | nil => intro o; rfl
  | cons f fs ih =>
    intro o
    simp only [List.map_cons, runB, C10.insertAll, applyB, TermFact.op, TermFact.term, Onto.addTerm]
    cases arenaInsert o.terms _ with
    | none => rfl
    | some ts => exact ih _

theorem terms_phase (fs : List TermFact) (o : Onto) (h : runB (fs.map TermFact.op) {} = some o) :
    (∀ j, getT o.terms j = (fs.find? (fun f => f.id = j)).map TermFact.term) ∧
    (∀ f ∈ fs, f.id < maxId) := by
  rw [runB_terms] at h
  obtain ⟨ts, hts, rfl⟩ := Option.map_eq_some_iff.1 h
  obtain ⟨h1, h2⟩ := C10.getT_insertAll _ hts
  exact ⟨fun j => by rw [h1 j, List.find?_map]; rfl, fun f hf => h2 _ (List.mem_map_of_mem hf)⟩

/-- everything of a term except `id`, `parents` and `children`.

One of five bundles of `Term` fields; each is what some phase of a run cannot change, so that a lookup mapped
through it is the same before and after:

| bundle | fields | unchanged by | used for |
|---|---|---|---|
| `fieldsOf` (here) | all but `id`, `parents`, `children` | `addChild`, `addParent` (`add_parent`) | `edges_phase`: the edge calls keep what the term facts gave; with id, parents, children a term (`term_ext`) |
| `coreOf` (ObsEq) | all but `genes`, `omim`, `orpha` | `setAnn` (annotation calls) | `runA_frame`; with the three sets a term (`term_ext_ann`) |
| `relOf` (Built) | `parents`, `children`, `allParents` | `setAnn`, `setIc` | `built_of_run`: the relations of the result are those after `connect_all_terms` |
| `linkOf` (Built) | `id`, `name`, `obsolete`, `replacement`, `parents`, `children` | `setAnn`, `setIc`, writes of `allParents` | `run_linkOf`: what the term-level calls wrote survives the run |
| `Binary.core` (BinaryLoad) | `id`, `name`, `obsolete`, `replacement` | every step of `loadFacts` after the terms section | `Same`: the loaded terms are the term records of the file | -/
def fieldsOf (t : Term) :=
  (t.name, t.obsolete, t.replacement, t.allParents, t.genes, t.omim, t.orpha, t.icGene, t.icOmim, t.icOrpha)

theorem fieldsOf_addChild (t : Term) (c : Nat) : fieldsOf (t.addChild c) = fieldsOf t := rfl
theorem fieldsOf_addParent (t : Term) (c : Nat) : fieldsOf (t.addParent c) = fieldsOf t := rfl

theorem term_ext (t u : Term) (h0 : t.id = u.id) (h1 : fieldsOf t = fieldsOf u)
    (h2 : t.parents = u.parents) (h3 : t.children = u.children) : t = u := by
  cases t; cases u
  simp only [fieldsOf, Prod.mk.injEq] at h1
  simp_all

theorem edge_step (o o1 : Onto) (p c : Nat) (hpre : PreInv o.terms)
    (h : applyB o (.parent p c) = some o1) :
    (∀ j, (getT o1.terms j).isSome = (getT o.terms j).isSome) ∧
    (∀ j, (getT o1.terms j).map fieldsOf = (getT o.terms j).map fieldsOf) ∧
    (∀ j x, x ∈ parentsOf o1.terms j ↔ x ∈ parentsOf o.terms j ∨
      ((x, j) = (p, c) ∧ (getT o.terms x).isSome ∧ (getT o.terms j).isSome)) ∧
    (∀ j x, x ∈ childrenOf o1.terms j ↔ x ∈ childrenOf o.terms j ∨
      ((j, x) = (p, c) ∧ (getT o.terms x).isSome ∧ (getT o.terms j).isSome)) := by
  rw [applyB_parent o p c hpre.small] at h
  by_cases hb : (getT o.terms p).isSome ∧ (getT o.terms c).isSome
  · rw [if_pos hb] at h; cases h
    refine ⟨isSome_addParent o.terms p c, fun j => ?_, fun j x => ?_, fun j x => ?_⟩
    · show (getT (modT (modT o.terms p (·.addChild c)) c (·.addParent p)) j).map fieldsOf = _
      rw [getT_addParent, Option.map_map]; rfl
    · exact (mem_parentsOf_addParent hb.2 p j x).trans
        (or_congr_right ⟨fun e => ⟨e, by cases e; exact hb⟩, And.left⟩)
    · exact (mem_childrenOf_addParent hb.1 c j x).trans
        (or_congr_right ⟨fun e => ⟨e, by cases e; exact hb.symm⟩, And.left⟩)
  · -- refused: the edge is not among those whose two ends exist
    rw [if_neg hb] at h; cases h
    exact ⟨fun _ => rfl, fun _ => rfl,
      fun j x => (or_iff_left fun ⟨e, hx, hj⟩ => hb (by cases e; exact ⟨hx, hj⟩)).symm,
      fun j x => (or_iff_left fun ⟨e, hx, hj⟩ => hb (by cases e; exact ⟨hj, hx⟩)).symm⟩

/-- what a run of `add_parent` calls does to every term: presence, names and flags are untouched;
`parents` / `children` collect exactly the edge facts whose two ends exist -/
theorem edges_phase (es : List EdgeFact) :
    ∀ (o0 o : Onto), PreInv o0.terms → runB (es.map edgeOp) o0 = some o →
      (∀ j, (getT o.terms j).isSome = (getT o0.terms j).isSome) ∧
      (∀ j, (getT o.terms j).map fieldsOf = (getT o0.terms j).map fieldsOf) ∧
      (∀ j x, x ∈ parentsOf o.terms j ↔ x ∈ parentsOf o0.terms j ∨
        ((x, j) ∈ es ∧ (getT o0.terms x).isSome ∧ (getT o0.terms j).isSome)) ∧
      (∀ j x, x ∈ childrenOf o.terms j ↔ x ∈ childrenOf o0.terms j ∨
        ((j, x) ∈ es ∧ (getT o0.terms x).isSome ∧ (getT o0.terms j).isSome)) := by
  induction es with
  | nil =>
    intro o0 o _ h; cases h
    exact ⟨fun _ => rfl, fun _ => rfl, by simp, by simp⟩
  | cons e es ih =>
    intro o0 o hpre h
    simp only [List.map_cons, runB, Option.bind_eq_some_iff] at h
    obtain ⟨o1, h1, h2⟩ := h
    obtain ⟨s1, f1, p1, c1⟩ := edge_step o0 o1 e.1 e.2 hpre h1
    obtain ⟨s2, f2, p2, c2⟩ := ih o1 o (preInv_apply o0 o1 _ hpre h1).1 h2
    refine ⟨fun j => (s2 j).trans (s1 j), fun j => (f2 j).trans (f1 j), fun j x => ?_, fun j x => ?_⟩
    · rw [p2, p1, s1, s1, List.mem_cons, or_assoc, ← or_and_right]
    · rw [c2, c1, s1, s1, List.mem_cons, or_assoc, ← or_and_right]

end Hpo
