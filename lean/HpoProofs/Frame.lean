import HpoProofs.Arena
import HpoModel.Load
/-! What the recursive builder steps (`create_cache_of_grandparents`, `connect_all_terms`,
`link_*_term`) do to an ontology as a whole, whatever its content: they write the arena through
`modUnchecked` / `modT` with one kind of field update, and they read nothing but the arena.
Three ways to use it:
* `*_preorder`: a reflexive, transitive `R` that holds across the single write holds across the step, so an
  invariant or a frame statement needs no induction over the recursion of its own;
* `*_outside`: the step commutes with any change `g` made outside the arena (`Outside g`);
* `rest_of_outside`, the case `g :=` "overwrite everything but `terms` and `slot0` by `o`'s": what the step
  returns on `o` has `o`'s other fields.  In lemma names "rest" is always this: the fields a step does not
  write, as an equation `o' = { o with … := o'.… }` over those it does (`calcIc_rest`, `link_rest`,
  `buildWithDefaults_rest`; `recs_of_rest` reads one). -/
namespace Hpo
namespace Onto

section Preorder
variable {R : Onto → Onto → Prop} (refl : ∀ o, R o o) (trans : ∀ {a b c}, R a b → R b c → R a c)
include refl trans

theorem cacheFold_preorder {rec : Onto → Nat → Res Onto} (hrec : ∀ o i o', rec o i = .ok o' → R o o') :
    ∀ (ps : List Nat) (o : Onto) (acc : List Nat) (r : Onto × List Nat),
      cacheFold rec ps o acc = .ok r → R o r.1 := by
  intro ps
  induction ps with
  | nil => intro o acc r h; cases h; exact refl o
  | cons p ps ih =>
    intro o acc r h
    rw [cacheFold] at h
    split at h
    · cases h
    · obtain ⟨o1, h1, h2⟩ := Res.bind_eq_ok.1 h
      have r1 : R o o1 := by
        split at h1
        · cases h1; exact refl o
        · exact hrec _ _ _ h1
      split at h2
      · cases h2
      · exact trans r1 (ih o1 _ r h2)

theorem createCache_preorder
    (step : ∀ o i v o', o.modUnchecked i (fun t => { t with allParents := v }) = some o' → R o o') :
    ∀ (fuel : Nat) (o : Onto) (i : Nat) (o' : Onto), createCache fuel o i = .ok o' → R o o' := by
  intro fuel
  induction fuel with
  | zero => intro _ _ _ h; cases h
  | succ fuel ih =>
    intro o i o' h
    rw [createCache] at h
    split at h
    · cases h
    · obtain ⟨r, h1, h2⟩ := Res.bind_eq_ok.1 h
      split at h2
      · cases h2
      · rename_i o2 hm
        cases h2
        exact trans (cacheFold_preorder refl trans ih _ _ _ _ h1) (step _ _ _ _ hm)

theorem connectFold_preorder
    (step : ∀ o i v o', o.modUnchecked i (fun t => { t with allParents := v }) = some o' → R o o')
    (fuel : Nat) : ∀ (is : List Nat) (o o' : Onto), connectFold fuel is o = .ok o' → R o o' := by
  intro is
  induction is with
  | nil => intro o o' h; cases h; exact refl o
  | cons i is ih =>
    intro o o' h
    obtain ⟨o1, h1, h2⟩ := Res.bind_eq_ok.1 h
    exact trans (createCache_preorder refl trans step _ _ _ _ h1) (ih o1 o' h2)

theorem connectAll_preorder
    (step : ∀ o i v o', o.modUnchecked i (fun t => { t with allParents := v }) = some o' → R o o')
    {o o' : Onto} (h : o.connectAll = .ok o') : R o o' :=
  connectFold_preorder refl trans step _ _ _ _ h

theorem linkFold_preorder {rec : Onto → Nat → Res Onto} (hrec : ∀ o i o', rec o i = .ok o' → R o o') :
    ∀ (ps : List Nat) (o o' : Onto), linkFold rec ps o = .ok o' → R o o' := by
  intro ps
  induction ps with
  | nil => intro o o' h; cases h; exact refl o
  | cons p ps ih =>
    intro o o' h
    obtain ⟨o1, h1, h2⟩ := Res.bind_eq_ok.1 h
    exact trans (hrec _ _ _ h1) (ih o1 o' h2)

theorem link_preorder {k : Kind}
    (step : ∀ (o : Onto) t v, R o { o with terms := modT o.terms t (fun x => x.setAnn k v) }) (r : Nat) :
    ∀ (fuel : Nat) (o : Onto) (t : Nat) (o' : Onto), link k r fuel o t = .ok o' → R o o' := by
  intro fuel
  induction fuel with
  | zero => intro _ _ _ h; cases h
  | succ fuel ih =>
    intro o t o' h
    rw [link] at h
    split at h
    · cases h
    · split at h
      · exact trans (step o t _) (linkFold_preorder refl trans ih _ _ _ h)
      · cases h; exact refl o

theorem linkAll_preorder {k : Kind}
    (step : ∀ (o : Onto) t v, R o { o with terms := modT o.terms t (fun x => x.setAnn k v) }) (r : Nat) :
    ∀ (ts : List Nat) (o o' : Onto), linkAll k r ts o = .ok o' → R o o' := by
  intro ts
  induction ts with
  | nil => intro o o' h; cases h; exact refl o
  | cons t ts ih =>
    intro o o' h
    obtain ⟨o1, h1, h2⟩ := Res.bind_eq_ok.1 h
    exact trans (link_preorder refl trans step r _ _ _ _ h1) (ih o1 o' h2)

end Preorder

/-- `g` changes an ontology outside the arena only: it keeps `terms` and `slot0` and commutes with writing
them. The recursive steps read and write nothing else, so they commute with `g` (`*_outside`). -/
structure Outside (g : Onto → Onto) : Prop where
  terms : ∀ o, (g o).terms = o.terms
  slot0 : ∀ o, (g o).slot0 = o.slot0
  setTerms : ∀ (o : Onto) ts, g { o with terms := ts } = { g o with terms := ts }
  setSlot0 : ∀ (o : Onto) s, g { o with slot0 := s } = { g o with slot0 := s }

section Outside
variable {g : Onto → Onto} (hg : Outside g)
include hg

theorem Outside.get (o : Onto) (i : Nat) : (g o).get i = o.get i := by
  rw [Onto.get, hg.terms, Onto.get]

theorem Outside.getUnchecked (o : Onto) (i : Nat) : (g o).getUnchecked i = o.getUnchecked i := by
  rw [Onto.getUnchecked, hg.terms, hg.slot0, Onto.getUnchecked]

theorem Outside.modUnchecked (o : Onto) (i : Nat) (f : Term → Term) :
    (g o).modUnchecked i f = (o.modUnchecked i f).map g := by
  unfold Onto.modUnchecked
  rw [show getT (g o).terms i = getT o.terms i by rw [hg.terms]]
  split
  · rfl
  · cases getT o.terms i with
    | some _ => rw [hg.terms]; exact congrArg some (hg.setTerms o _).symm
    | none => rw [hg.slot0]; exact congrArg some (hg.setSlot0 o _).symm

theorem cacheFold_outside {rec : Onto → Nat → Res Onto}
    (hrec : ∀ o i, rec (g o) i = (rec o i).bind fun o' => .ok (g o')) :
    ∀ (ps : List Nat) (o : Onto) (acc : List Nat),
      cacheFold rec ps (g o) acc = (cacheFold rec ps o acc).bind fun r => .ok (g r.1, r.2) := by
  intro ps
  induction ps with
  | nil => intro _ _; rfl
  | cons p ps ih =>
    intro o acc
    simp only [cacheFold, hg.getUnchecked]
    cases o.getUnchecked p with
    | none => rfl
    | some tp =>
      have e : (if tp.parentsCached then Res.ok (g o) else rec (g o) p) =
          (if tp.parentsCached then Res.ok o else rec o p).bind fun o' => .ok (g o') := by
        split
        · rfl
        · exact hrec o p
      simp only [e, Res.bind_assoc, Res.bind_ok, hg.getUnchecked]
      congr 1; funext o1
      cases o1.getUnchecked p with
      | none => rfl
      | some _ => exact ih o1 _

theorem createCache_outside : ∀ (fuel : Nat) (o : Onto) (i : Nat),
    createCache fuel (g o) i = (createCache fuel o i).bind fun o' => .ok (g o') := by
  intro fuel
  induction fuel with
  | zero => intro _ _; rfl
  | succ fuel ih =>
    intro o i
    simp only [createCache, hg.getUnchecked]
    cases o.getUnchecked i with
    | none => rfl
    | some t =>
      simp only [cacheFold_outside hg ih, Res.bind_assoc, Res.bind_ok, hg.modUnchecked]
      congr 1; funext r
      cases r.1.modUnchecked i _ <;> rfl

theorem connectFold_outside (fuel : Nat) : ∀ (is : List Nat) (o : Onto),
    connectFold fuel is (g o) = (connectFold fuel is o).bind fun o' => .ok (g o') := by
  intro is
  induction is with
  | nil => intro _; rfl
  | cons i is ih =>
    intro o
    simp only [connectFold, createCache_outside hg, Res.bind_assoc, Res.bind_ok]
    congr 1; funext o1
    exact ih o1

theorem connectAll_outside (o : Onto) :
    (g o).connectAll = o.connectAll.bind fun o' => .ok (g o') := by
  rw [connectAll, Onto.ids, hg.terms]
  exact connectFold_outside hg _ _ o

omit hg in
theorem linkFold_outside {rec : Onto → Nat → Res Onto}
    (hrec : ∀ o i, rec (g o) i = (rec o i).bind fun o' => .ok (g o')) :
    ∀ (ps : List Nat) (o : Onto), linkFold rec ps (g o) = (linkFold rec ps o).bind fun o' => .ok (g o') := by
  intro ps
  induction ps with
  | nil => intro _; rfl
  | cons p ps ih =>
    intro o
    simp only [linkFold, hrec, Res.bind_assoc, Res.bind_ok]
    congr 1; funext o1
    exact ih o1

theorem link_outside (k : Kind) (r : Nat) : ∀ (fuel : Nat) (o : Onto) (t : Nat),
    link k r fuel (g o) t = (link k r fuel o t).bind fun o' => .ok (g o') := by
  intro fuel
  induction fuel with
  | zero => intro _ _; rfl
  | succ fuel ih =>
    intro o t
    simp only [link, hg.get]
    cases o.get t with
    | none => rfl
    | some tm =>
      dsimp only
      split
      · rw [hg.terms, ← hg.setTerms]
        exact linkFold_outside ih _ _
      · rfl

omit hg in
theorem rest_of_outside {op : Onto → Res Onto} {o o' : Onto}
    (hop : ∀ {g}, Outside g → op (g o) = (op o).bind fun o' => .ok (g o')) (h : op o = .ok o') :
    o' = { o with terms := o'.terms, slot0 := o'.slot0 } := by
  -- this `g` fixes `o`, so `this` speaks of `op o`
  have := hop (g := fun x => { o with terms := x.terms, slot0 := x.slot0 })
    ⟨fun _ => rfl, fun _ => rfl, fun _ _ => rfl, fun _ _ => rfl⟩
  rw [h] at this
  exact Res.ok.inj this

end Outside

end Onto
end Hpo
