import HpoModel.Group
/-! The sorted-vector model of `HpoGroup` (core Lean only): every operation is described by its members
and keeps the vector `Sorted`, and a `Sorted` vector is determined by its members
(`eq_of_sorted_of_mem_iff`), so an identity between groups is an identity between membership
conditions. -/
namespace Hpo
namespace Group

/-- the invariant of `HpoGroup`'s vector: strictly ascending, so sorted and duplicate free -/
def Sorted (l : List Nat) : Prop := l.Pairwise (· < ·)

instance (l : List Nat) : Decidable (Sorted l) := by unfold Sorted; infer_instance

theorem sorted_nil : Sorted [] := List.Pairwise.nil

theorem Sorted.nodup {l : List Nat} (h : Sorted l) : l.Nodup :=
  List.Pairwise.imp Nat.ne_of_lt h

theorem sorted_cons {a : Nat} {l : List Nat} : Sorted (a :: l) ↔ (∀ x ∈ l, a < x) ∧ Sorted l :=
  List.pairwise_cons

theorem mem_insert (l : List Nat) (x y : Nat) : y ∈ (insert l x).1 ↔ y = x ∨ y ∈ l := by
  fun_induction insert l x with
  | case1 => simp
  | case2 => simp
  | case3 => simp
  | case4 a l x _ _ ih => simp only [List.mem_cons, ih, or_left_comm]

theorem sorted_insert (l : List Nat) (x : Nat) (h : Sorted l) : Sorted (insert l x).1 := by
  fun_induction insert l x with
  | case1 => exact sorted_cons.2 ⟨nofun, h⟩
  | case2 a l x hxa =>
    refine sorted_cons.2 ⟨fun y hy => ?_, h⟩
    rcases List.mem_cons.1 hy with rfl | hy
    · exact hxa
    · exact Nat.lt_trans hxa ((sorted_cons.1 h).1 y hy)
  | case3 => exact h
  | case4 a l x hxa hne ih =>
    have ⟨ha, hl⟩ := sorted_cons.1 h
    refine sorted_cons.2 ⟨fun y hy => ?_, ih hl⟩
    rcases (mem_insert l x y).1 hy with rfl | hy
    · exact Nat.lt_of_le_of_ne (Nat.not_lt.1 hxa) (Ne.symm hne)
    · exact ha y hy

theorem insert_snd (l : List Nat) (x : Nat) (h : Sorted l) : (insert l x).2 = true ↔ x ∉ l := by
  fun_induction insert l x with
  | case1 => simp
  | case2 a l x hxa =>
    have ha := (sorted_cons.1 h).1
    simp only [List.mem_cons, not_or, true_iff]
    exact ⟨Nat.ne_of_lt hxa, fun hx => Nat.lt_asymm hxa (ha x hx)⟩
  | case3 => simp
  | case4 a l x hxa hne ih =>
    rw [ih (sorted_cons.1 h).2, List.mem_cons, not_or]
    exact ⟨fun h' => ⟨hne, h'⟩, fun h' => h'.2⟩

theorem insert_snd_eq_false (l : List Nat) (x : Nat) (h : Sorted l) :
    (insert l x).2 = false ↔ x ∈ l := by
  rw [← Bool.not_eq_true, insert_snd l x h, Classical.not_not]

theorem length_insert (l : List Nat) (x : Nat) :
    (insert l x).1.length = if (insert l x).2 then l.length + 1 else l.length := by
  fun_induction insert l x with
  | case1 => rfl
  | case2 => rfl
  | case3 => rfl
  | case4 a l x _ _ ih =>
    rw [List.length_cons, ih]
    split <;> rfl

theorem eq_of_sorted_of_mem_iff (l r : List Nat) (hl : Sorted l) (hr : Sorted r)
    (h : ∀ x, x ∈ l ↔ x ∈ r) : l = r :=
  List.Perm.eq_of_pairwise (fun _ _ _ _ hab hba => absurd hab (Nat.lt_asymm hba)) hl hr
    ((List.perm_ext_iff_of_nodup hl.nodup hr.nodup).2 h)

theorem insert_of_mem (l : List Nat) (x : Nat) (h : Sorted l) (hx : x ∈ l) : (insert l x).1 = l :=
  eq_of_sorted_of_mem_iff _ _ (sorted_insert l x h) h fun y => by
    rw [mem_insert]; exact ⟨fun h' => h'.elim (· ▸ hx) id, Or.inr⟩

theorem insert_head_self (l : List Nat) (r : Nat) : insert (r :: l) r = (r :: l, false) := by
  rw [insert, if_neg (Nat.lt_irrefl r), if_pos rfl]

theorem bitor_nil_left (r : List Nat) : bitor [] r = r := rfl

theorem bitor_nil_right (l : List Nat) : bitor l [] = l := by
  induction l with
  | nil => rfl
  | cons a l ih => simp [bitor, mergeAux, ih]

/-- the loop body of the code's merge -/
theorem bitor_cons_cons (a b : Nat) (l r : List Nat) :
    bitor (a :: l) (b :: r) =
      if a < b then a :: bitor l (b :: r)
      else if b < a then b :: bitor (a :: l) r
      else a :: bitor l r := by
  simp [bitor, mergeAux]

theorem mem_bitor (l r : List Nat) (x : Nat) : x ∈ bitor l r ↔ x ∈ l ∨ x ∈ r := by
  induction l generalizing r with
  | nil => simp [bitor]
  | cons a l ihl =>
    induction r with
    | nil => simp [bitor_nil_right]
    | cons b r ihr =>
      rw [bitor_cons_cons]
      rcases Nat.lt_trichotomy a b with hab | rfl | hba
      · rw [if_pos hab]; simp only [List.mem_cons, ihl, or_assoc]
      · rw [if_neg (Nat.lt_irrefl a), if_neg (Nat.lt_irrefl a),
          List.mem_cons, List.mem_cons, List.mem_cons, ihl, or_or_distrib_left]
      · rw [if_neg (Nat.lt_asymm hba), if_pos hba]
        simp only [List.mem_cons, ihr, or_assoc, or_left_comm]

theorem sorted_bitor (l r : List Nat) (hl : Sorted l) (hr : Sorted r) : Sorted (bitor l r) := by
  have below : ∀ {a : Nat} {l r : List Nat}, (∀ x ∈ l, a < x) → (∀ x ∈ r, a < x) →
      ∀ x ∈ bitor l r, a < x := fun h1 h2 x hx => ((mem_bitor _ _ x).1 hx).elim (h1 x) (h2 x)
  induction l generalizing r with
  | nil => exact hr
  | cons a l ihl =>
    induction r with
    | nil => rw [bitor_nil_right]; exact hl
    | cons b r ihr =>
      rw [bitor_cons_cons]
      have ⟨ha, hl'⟩ := sorted_cons.1 hl
      have ⟨hb, hr'⟩ := sorted_cons.1 hr
      rcases Nat.lt_trichotomy a b with hab | rfl | hba
      · rw [if_pos hab]
        refine sorted_cons.2 ⟨below ha ?_, ihl _ hl' hr⟩
        exact fun x hx => (List.mem_cons.1 hx).elim (· ▸ hab) fun h => Nat.lt_trans hab (hb x h)
      · rw [if_neg (Nat.lt_irrefl a), if_neg (Nat.lt_irrefl a)]
        exact sorted_cons.2 ⟨below ha hb, ihl _ hl' hr'⟩
      · rw [if_neg (Nat.lt_asymm hba), if_pos hba]
        refine sorted_cons.2 ⟨below ?_ hb, ihr hr'⟩
        exact fun x hx => (List.mem_cons.1 hx).elim (· ▸ hba) fun h => Nat.lt_trans hba (ha x h)

theorem mem_bitand (l r : List Nat) (x : Nat) : x ∈ bitand l r ↔ x ∈ l ∧ x ∈ r := by
  unfold bitand
  split
  · rw [List.mem_filter, List.elem_eq_mem, decide_eq_true_eq, and_comm]
  · rw [List.mem_filter, List.elem_eq_mem, decide_eq_true_eq]

theorem bitand_isEmpty_eq_false (l r : List Nat) :
    (bitand l r).isEmpty = false ↔ ∃ d ∈ l, d ∈ r := by
  simp only [List.isEmpty_eq_false_iff_exists_mem, mem_bitand]

theorem sorted_bitand (l r : List Nat) (hl : Sorted l) (hr : Sorted r) : Sorted (bitand l r) := by
  unfold bitand
  split
  · exact hr.filter _
  · exact hl.filter _

theorem mem_insertAll (xs g : List Nat) (y : Nat) : y ∈ insertAll g xs ↔ y ∈ g ∨ y ∈ xs := by
  unfold insertAll
  induction xs generalizing g with
  | nil => simp
  | cons x xs ih =>
    rw [List.foldl_cons, ih, mem_insert, List.mem_cons]
    simp only [or_assoc, or_left_comm]

theorem sorted_insertAll (xs g : List Nat) (h : Sorted g) : Sorted (insertAll g xs) := by
  unfold insertAll
  induction xs generalizing g with
  | nil => simpa
  | cons x xs ih => simp only [List.foldl_cons]; exact ih _ (sorted_insert g x h)

theorem mem_ofList (xs : List Nat) (y : Nat) : y ∈ ofList xs ↔ y ∈ xs :=
  (mem_insertAll xs [] y).trans (by simp)

theorem sorted_ofList (xs : List Nat) : Sorted (ofList xs) :=
  sorted_insertAll xs [] sorted_nil

theorem mem_addId (l : List Nat) (x y : Nat) : y ∈ addId l x ↔ y = x ∨ y ∈ l := mem_insert l x y

theorem sorted_addId (l : List Nat) (x : Nat) (h : Sorted l) : Sorted (addId l x) :=
  sorted_insert l x h

theorem insertAll_eq_bitor (g xs : List Nat) (hg : Sorted g) (hx : Sorted xs) :
    insertAll g xs = bitor g xs := by
  apply eq_of_sorted_of_mem_iff _ _ (sorted_insertAll xs g hg) (sorted_bitor g xs hg hx)
  intro x; rw [mem_insertAll, mem_bitor]

theorem ofList_of_sorted (l : List Nat) (h : Sorted l) : ofList l = l :=
  eq_of_sorted_of_mem_iff _ _ (sorted_ofList l) h (mem_ofList l)

theorem insertAll_nil_ofList (l : List Nat) : insertAll [] (ofList l) = ofList l :=
  (rfl : insertAll [] (ofList l) = ofList (ofList l)).trans (ofList_of_sorted _ (sorted_ofList l))

theorem bitor_comm (l r : List Nat) (hl : Sorted l) (hr : Sorted r) : bitor l r = bitor r l :=
  eq_of_sorted_of_mem_iff _ _ (sorted_bitor l r hl hr) (sorted_bitor r l hr hl) fun x => by
    rw [mem_bitor, mem_bitor]; exact Or.comm

theorem bitand_comm (l r : List Nat) (hl : Sorted l) (hr : Sorted r) : bitand l r = bitand r l :=
  eq_of_sorted_of_mem_iff _ _ (sorted_bitand l r hl hr) (sorted_bitand r l hr hl) fun x => by
    rw [mem_bitand, mem_bitand]; exact And.comm

theorem mem_foldl_insertAll {α : Type} (f : α → List Nat) (ts : List α) (acc : List Nat) (g : Nat) :
    g ∈ ts.foldl (fun a t => insertAll a (f t)) acc ↔ g ∈ acc ∨ ∃ t ∈ ts, g ∈ f t := by
  induction ts generalizing acc with
  | nil => simp
  | cons t ts ih =>
    rw [List.foldl_cons, ih, mem_insertAll]
    simp only [List.mem_cons, exists_eq_or_imp, or_assoc]

theorem sorted_foldl_insertAll {α : Type} (f : α → List Nat) (ts : List α) (acc : List Nat)
    (h : Sorted acc) : Sorted (ts.foldl (fun a t => insertAll a (f t)) acc) := by
  induction ts generalizing acc with
  | nil => exact h
  | cons t ts ih => exact ih _ (sorted_insertAll _ _ h)

theorem contains_iff (l : List Nat) (x : Nat) : contains l x = true ↔ x ∈ l := by
  simp [contains]

end Group
end Hpo
