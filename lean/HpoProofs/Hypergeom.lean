import HpoModel.Hypergeom
import Mathlib.Data.Nat.Choose.Vandermonde
import Mathlib.Algebra.BigOperators.Field
/-!
Helper lemmas for C06: the model's binomial coefficients are Mathlib's `Nat.choose`; the exact
hypergeometric probability mass function over `ℚ`, Vandermonde's identity (`Σ pmf = 1`), the tail
`P[X ≥ k]` and its relation to the model's `sfModel` (the three branches of `Hypergeometric::sf`).
-/
namespace Hpo
namespace Hypergeom
open Finset

theorem choose_eq (n k : ℕ) : choose n k = Nat.choose n k := by
  fun_induction choose n k <;> simp_all [Nat.choose_succ_succ]

theorem chooseMul_eq (n k : ℕ) : chooseMul n k = Nat.choose n k := by
  induction k with
  | zero => simp [chooseMul]
  | succ k ih =>
    rw [chooseMul, ih]
    apply Nat.div_eq_of_eq_mul_left (Nat.succ_pos k)
    exact (Nat.choose_succ_right_eq n k).symm

theorem tailNum_eq (K M n c lo : ℕ) :
    tailNum K M n c lo = ∑ j ∈ range c, K.choose (lo + j) * M.choose (n - (lo + j)) := by
  induction c generalizing lo with
  | zero => rw [tailNum, Finset.sum_range_zero]
  | succ c ih =>
    rw [tailNum, ih, Finset.sum_range_succ', chooseMul_eq, chooseMul_eq]
    simp only [Nat.add_zero]
    rw [Nat.add_comm]
    congr 1
    apply Finset.sum_congr rfl
    intro j _
    rw [Nat.add_assoc, Nat.add_comm 1 j]

/-- probability mass function of `Hypergeometric(N, K, n)` at `i` (exact) -/
def pmf (N K n i : ℕ) : ℚ :=
  if i ≤ n then ((K.choose i * (N - K).choose (n - i) : ℕ) : ℚ) / (N.choose n : ℚ) else 0

/-- `P[X ≥ k] = Σ_{k ≤ i ≤ n} pmf i` -/
def tail (N K n k : ℕ) : ℚ := ∑ i ∈ Icc k n, pmf N K n i

/-- the model's survival function as a rational number -/
def sfQ (N K n x : ℕ) : ℚ := ((sfModel N K n x).1 : ℚ) / ((sfModel N K n x).2 : ℚ)

theorem pmf_nonneg (N K n i : ℕ) : 0 ≤ pmf N K n i := by
  unfold pmf
  split
  · exact Rat.div_nonneg (Nat.cast_nonneg _) (Nat.cast_nonneg _)
  · exact le_rfl

theorem pmf_sum (N K n : ℕ) (hK : K ≤ N) (hn : n ≤ N) : ∑ i ∈ range (n + 1), pmf N K n i = 1 := by
  have hpos : (0 : ℚ) < (N.choose n : ℚ) := Nat.cast_pos.2 (Nat.choose_pos hn)
  have h1 : ∑ i ∈ range (n + 1), pmf N K n i
      = ∑ i ∈ range (n + 1), ((K.choose i * (N - K).choose (n - i) : ℕ) : ℚ) / (N.choose n : ℚ) :=
    Finset.sum_congr rfl fun i hi => if_pos (Nat.le_of_lt_succ (Finset.mem_range.1 hi))
  rw [h1, ← Finset.sum_div, ← Nat.cast_sum]
  have hv := Nat.add_choose_eq K (N - K) n
  rw [Finset.Nat.sum_antidiagonal_eq_sum_range_succ (fun a b => K.choose a * (N - K).choose b)] at hv
  rw [← hv, Nat.add_sub_cancel' hK]
  exact div_self (ne_of_gt hpos)

theorem hmax_eq_min (K n : ℕ) : hmax K n = min K n := rfl

theorem hmax_le (K n : ℕ) : hmax K n ≤ n := Nat.min_le_right K n

theorem hmin_le (N K n : ℕ) (hK : K ≤ N) : hmin N K n ≤ n :=
  Nat.sub_le_of_le_add (Nat.add_le_add_left hK n)

theorem pmf_zero_outside (N K n i : ℕ) (hK : K ≤ N) (h : i < hmin N K n ∨ hmax K n < i) : pmf N K n i = 0 := by
  unfold pmf
  split
  · rename_i hin
    have : K.choose i * (N - K).choose (n - i) = 0 := by
      rcases h with h | h
      · have : N - K < n - i := by unfold hmin at h; omega
        rw [Nat.choose_eq_zero_of_lt this, Nat.mul_zero]
      · have : K < i := (min_lt_iff.1 (hmax_eq_min K n ▸ h)).resolve_right (Nat.not_lt.2 hin)
        rw [Nat.choose_eq_zero_of_lt this, Nat.zero_mul]
    rw [this, Nat.cast_zero, zero_div]
  · rfl

theorem tail_zero (N K n : ℕ) (hK : K ≤ N) (hn : n ≤ N) : tail N K n 0 = 1 := by
  rw [tail, ← Nat.range_succ_eq_Icc_zero, pmf_sum N K n hK hn]

theorem tail_antitone (N K n : ℕ) {k k' : ℕ} (h : k ≤ k') : tail N K n k' ≤ tail N K n k := by
  unfold tail
  apply Finset.sum_le_sum_of_subset_of_nonneg (Finset.Icc_subset_Icc_left h)
  intro i _ _; exact pmf_nonneg N K n i

theorem tail_nonneg (N K n k : ℕ) : 0 ≤ tail N K n k :=
  Finset.sum_nonneg (fun i _ => pmf_nonneg N K n i)

theorem tail_le_one (N K n k : ℕ) (hK : K ≤ N) (hn : n ≤ N) : tail N K n k ≤ 1 := by
  rw [← tail_zero N K n hK hn]; exact tail_antitone N K n (Nat.zero_le k)

theorem tail_split (N K n : ℕ) {k k' : ℕ} (h : k ≤ k') (h' : k' ≤ n + 1) :
    tail N K n k = (∑ i ∈ Ico k k', pmf N K n i) + tail N K n k' := by
  unfold tail
  rw [← Finset.Ico_add_one_right_eq_Icc, ← Finset.Ico_add_one_right_eq_Icc,
    Finset.sum_Ico_consecutive _ h h']

theorem tail_eq_zero (N K n : ℕ) {k : ℕ} (hK : K ≤ N) (h : hmax K n < k) : tail N K n k = 0 :=
  Finset.sum_eq_zero fun i hi =>
    pmf_zero_outside N K n i hK (Or.inr (lt_of_lt_of_le h (Finset.mem_Icc.1 hi).1))

theorem tail_eq_one (N K n : ℕ) {k : ℕ} (hK : K ≤ N) (hn : n ≤ N) (h : k ≤ hmin N K n) :
    tail N K n k = 1 := by
  have hk : k ≤ n + 1 := Nat.le_succ_of_le (h.trans (hmin_le N K n hK))
  rw [← tail_zero N K n hK hn, tail_split N K n (Nat.zero_le k) hk, Finset.sum_eq_zero, zero_add]
  exact fun i hi => pmf_zero_outside N K n i hK (Or.inl (lt_of_lt_of_le (Finset.mem_Ico.1 hi).2 h))

/-- the three branches of `Hypergeometric::sf` compute `P[X > x]` -/
theorem sfQ_eq_tail (N K n x : ℕ) (hK : K ≤ N) (hn : n ≤ N) :
    sfQ N K n x = tail N K n (x + 1) := by
  unfold sfQ sfModel
  split
  · rename_i h
    rw [tail_eq_one N K n hK hn (Nat.succ_le_of_lt h), Nat.cast_one, div_one]
  · split
    · rename_i h
      rw [tail_eq_zero N K n hK (Nat.lt_succ_of_le h), Nat.cast_zero, zero_div]
    · -- the summed tail stops at `max`; nothing lies above it
      rename_i h
      have hx := Nat.lt_of_not_ge h
      rw [tail_split N K n (k := x + 1) (k' := hmax K n + 1) (Nat.succ_le_succ (Nat.le_of_lt hx))
          (Nat.succ_le_succ (hmax_le K n)),
        tail_eq_zero N K n hK (Nat.lt_succ_self _), add_zero, Finset.sum_Ico_eq_sum_range,
        tailNum_eq, chooseMul_eq, Nat.cast_sum, Finset.sum_div, Nat.add_sub_add_right]
      refine Finset.sum_congr rfl fun j hj => ?_
      have : x + 1 + j ≤ n := by
        have := Finset.mem_range.1 hj
        have := hmax_le K n
        omega
      rw [pmf, if_pos this]

theorem sfQ_range (N K n x : ℕ) (hK : K ≤ N) (hn : n ≤ N) :
    0 ≤ sfQ N K n x ∧ sfQ N K n x ≤ 1 := by
  rw [sfQ_eq_tail N K n x hK hn]
  exact ⟨tail_nonneg N K n _, tail_le_one N K n _ hK hn⟩

theorem sfQ_antitone (N K n x x' : ℕ) (hK : K ≤ N) (hn : n ≤ N) (h : x ≤ x') :
    sfQ N K n x' ≤ sfQ N K n x := by
  rw [sfQ_eq_tail N K n x hK hn, sfQ_eq_tail N K n x' hK hn]
  exact tail_antitone N K n (Nat.succ_le_succ h)

namespace RatNum
/-- `Num ℚ`, used to evaluate the fold enrichment exactly.  `log`/`exp` are not rational functions
and are not used by `foldEnrichment`; they are placeholders here. -/
scoped instance instNumRat : Num ℚ where
  ofNat := fun n => (n : ℚ)
  add := (· + ·)
  sub := (· - ·)
  mul := (· * ·)
  div? := fun a b => if b = 0 then none else some (a / b)
  log := fun _ => 0
  exp := fun _ => 0
  neg := fun a => -a
  isZero := fun a => decide (a = 0)
  lt := fun a b => decide (a < b)
  isNaN := fun _ => false
end RatNum
open RatNum

theorem div?_rat (a b : ℚ) : Num.div? a b = if b = 0 then none else some (a / b) := rfl
theorem ofNat_rat (n : ℕ) : (Num.ofNat n : ℚ) = (n : ℚ) := rfl

end Hypergeom
end Hpo
