import HpoModel.HypergeomFast
import HpoProofs.Hypergeom
/-!
The linear-time tail of the hypergeometric distribution run by the driver (`HpoModel/HypergeomFast.lean`)
is the model's `tailNum` / `sfModel` / `pvalue` — for all arguments, no side conditions.
-/
namespace Hpo
namespace Hypergeom

theorem downStep_choose (M r : ℕ) (h : r ≤ M) : downStep M r (M.choose r) = M.choose (r - 1) := by
  cases r with
  | zero => rfl
  | succ r =>
    rw [downStep, if_neg (Nat.succ_ne_zero r), Nat.add_sub_cancel, ← Nat.sub_sub,
      Nat.sub_add_cancel (Nat.le_sub_of_add_le' h)]
    exact Nat.div_eq_of_eq_mul_left (Nat.sub_pos_of_lt h) (Nat.choose_succ_right_eq M r)

theorem tailLoop_eq (K M n : ℕ) : ∀ (c j acc : ℕ), n - j ≤ M →
    tailLoop K M n c j (chooseMul K j) (chooseMul M (n - j)) acc = acc + tailNum K M n c j := by
  intro c
  induction c with
  | zero => intro j acc _; rfl
  | succ c ih =>
    intro j acc h
    have hK : chooseMul K j * (K - j) / (j + 1) = chooseMul K (j + 1) := rfl
    rw [tailLoop, hK, chooseMul_eq M, downStep_choose M _ h, ← Nat.sub_add_eq, ← chooseMul_eq M,
      ← chooseMul_eq M (n - j), ih (j + 1) _ (by omega), tailNum, Nat.add_assoc]

theorem tailNumFast_eq (K M n : ℕ) : ∀ (c i : ℕ), tailNumFast K M n c i = tailNum K M n c i := by
  intro c
  induction c with
  | zero => intro i; simp [tailNumFast, tailNum]
  | succ c ih =>
    intro i
    rw [tailNumFast]
    split
    · rename_i h
      rw [ih, tailNum, chooseMul_eq M, Nat.choose_eq_zero_of_lt h, Nat.mul_zero, Nat.zero_add]
    · rename_i h
      rw [tailLoop_eq K M n (c + 1) i 0 (Nat.le_of_not_lt h), Nat.zero_add]

theorem sfModelFast_eq (N K n x : ℕ) : sfModelFast N K n x = sfModel N K n x := by
  unfold sfModelFast sfModel
  rw [tailNumFast_eq]

theorem pvalueFast_eq (N n : ℕ) (e : Enr) : pvalueFast N n e = pvalue N n e := by
  unfold pvalueFast pvalue
  rw [sfModelFast_eq]

end Hypergeom
end Hpo
