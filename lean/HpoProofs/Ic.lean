import HpoProofs.Arena
/-! `calculate_information_content`: what the three passes store in every term, and when they fail.
One specification per function (`icCalc_spec`, `icFold_spec`, `calcIc_spec`): either the counts fit and
the result is written down, or one does not and the error is `TryFromIntError`. -/
namespace Hpo

/-- the pair `InformationContent::calculate(total, current)` computes its value from -/
def icPair (total cur : Nat) : Nat × Nat := if total = 0 ∨ cur = 0 then (0, 0) else (cur, total)

theorem icPair_pos {total cur : Nat} (ht : 0 < total) (hc : 0 < cur) :
    icPair total cur = (cur, total) :=
  if_neg fun h => h.elim (Nat.ne_of_gt ht) (Nat.ne_of_gt hc)

/-- the condition under which `InformationContent::calculate(total, current)` is `Ok` -/
def Binary.IcFits (total cur : Nat) : Prop := total = 0 ∨ cur = 0 ∨ (total ≤ 65535 ∧ cur ≤ 65535)
open Binary

/-- what the three passes of `calculate_information_content` do to a term. Read a field of the result
through `icAll_id` / `icAll_ann` / `icAll_ic` or `calcIc_map_eq`, not by `rfl`: unifying a projection
of three nested updates of a variable term with the projection of the term compares the structures
field by field, three levels deep. -/
def icAll (o : Onto) (t : Term) : Term :=
  ((t.setIc .gene (icPair o.genes.length t.genes.length)).setIc .omim
    (icPair o.omim.length t.omim.length)).setIc .orpha (icPair o.orpha.length t.orpha.length)

theorem icAll_id (o : Onto) (t : Term) : (icAll o t).id = t.id := by simp only [icAll, setIc_id]
theorem icAll_ann (o : Onto) (t : Term) (k : Kind) : (icAll o t).ann k = t.ann k := by
  simp only [icAll, setIc_ann]
theorem icAll_ic (o : Onto) (t : Term) (k : Kind) :
    (icAll o t).ic k = icPair (o.recs k).length (t.ann k).length := by cases k <;> rfl

theorem icCalc_spec (total cur : Nat) :
    (IcFits total cur ∧ Onto.icCalc total cur = .ok (icPair total cur)) ∨
    (¬ IcFits total cur ∧ Onto.icCalc total cur = .err .tryFromInt) := by
  unfold Onto.icCalc icPair IcFits Onto.fitsU16
  by_cases h0 : total = 0 ∨ cur = 0
  · rw [if_pos h0, if_pos h0]
    exact Or.inl ⟨h0.elim Or.inl fun h => Or.inr (Or.inl h), rfl⟩
  · rw [if_neg h0, if_neg h0, ← or_assoc, or_iff_right h0]
    by_cases ht : total ≤ 65535
    · by_cases hc : cur ≤ 65535
      · exact Or.inl ⟨⟨ht, hc⟩, by simp only [ht, hc, decide_true, Bool.not_true, Bool.false_eq_true, if_false]⟩
      · exact Or.inr ⟨fun h => hc h.2, by simp only [ht, hc, decide_true, decide_false, Bool.not_true, Bool.not_false, Bool.false_eq_true, if_false, if_true]⟩
    · exact Or.inr ⟨fun h => ht h.1, by simp only [ht, decide_false, Bool.not_false, if_true]⟩

theorem icCalc_ok_iff (total cur : Nat) (v : Nat × Nat) :
    Onto.icCalc total cur = .ok v ↔
      v = icPair total cur ∧ (total = 0 ∨ cur = 0 ∨ (total ≤ 65535 ∧ cur ≤ 65535)) := by
  rcases icCalc_spec total cur with ⟨h, e⟩ | ⟨h, e⟩
  · rw [e]
    exact ⟨fun hv => ⟨(Res.ok.inj hv).symm, h⟩, fun hv => by rw [hv.1]⟩
  · rw [e]
    exact ⟨fun hv => (nomatch hv), fun hv => absurd hv.2 h⟩

theorem icCalc_pos {total cur : Nat} (ht : 0 < total) (hc : 0 < cur) (ht' : total ≤ 65535)
    (hc' : cur ≤ 65535) : Onto.icCalc total cur = .ok (cur, total) :=
  (icCalc_ok_iff total cur _).2 ⟨(icPair_pos ht hc).symm, .inr (.inr ⟨ht', hc'⟩)⟩

theorem icFold_spec (k : Kind) (total : Nat) (ts : List Term) :
    ((∀ t ∈ ts, IcFits total (t.ann k).length) ∧
      Onto.icFold k total ts = .ok (ts.map fun t => t.setIc k (icPair total (t.ann k).length))) ∨
    ((¬ ∀ t ∈ ts, IcFits total (t.ann k).length) ∧ Onto.icFold k total ts = .err .tryFromInt) := by
  induction ts with
  | nil => exact Or.inl ⟨fun _ h => (nomatch h), rfl⟩
  | cons t ts ih =>
    simp only [Onto.icFold, List.forall_mem_cons]
    rcases icCalc_spec total (t.ann k).length with ⟨h1, e1⟩ | ⟨h1, e1⟩
    · rcases ih with ⟨h2, e2⟩ | ⟨h2, e2⟩
      · exact Or.inl ⟨⟨h1, h2⟩, by rw [e1, e2]; rfl⟩
      · exact Or.inr ⟨fun h => h2 h.2, by rw [e1, e2]; rfl⟩
    · exact Or.inr ⟨fun h => h1 h.1, by rw [e1]; rfl⟩

theorem icFold_ok (k : Kind) (total : Nat) (ts ts' : List Term) (h : Onto.icFold k total ts = .ok ts') :
    ts' = ts.map (fun t => t.setIc k (icPair total (t.ann k).length)) := by
  rcases icFold_spec k total ts with ⟨_, e⟩ | ⟨_, e⟩
  · exact (Res.ok.inj (h.symm.trans e))
  · exact nomatch h.symm.trans e

theorem icFold_total (k : Kind) (total : Nat) (ts : List Term)
    (h : ∀ t ∈ ts, total = 0 ∨ (t.ann k).length = 0 ∨ (total ≤ 65535 ∧ (t.ann k).length ≤ 65535)) :
    ∃ ts', Onto.icFold k total ts = .ok ts' := by
  rcases icFold_spec k total ts with ⟨_, e⟩ | ⟨hn, _⟩
  · exact ⟨_, e⟩
  · exact absurd h hn

theorem calcIcKind_spec (o : Onto) (k : Kind) :
    ((∀ t ∈ o.terms, IcFits (o.recs k).length (t.ann k).length) ∧
      o.calcIcKind k = .ok { o with
        terms := o.terms.map (fun t => t.setIc k (icPair (o.recs k).length (t.ann k).length)) }) ∨
    ((¬ ∀ t ∈ o.terms, IcFits (o.recs k).length (t.ann k).length) ∧
      o.calcIcKind k = .err .tryFromInt) := by
  rw [Onto.calcIcKind]
  rcases icFold_spec k (o.recs k).length o.terms with ⟨h, e⟩ | ⟨h, e⟩
  · exact Or.inl ⟨h, by rw [e, Res.bind_ok]⟩
  · exact Or.inr ⟨h, by rw [e]; rfl⟩

theorem calcIc_spec (o : Onto) :
    ((∀ t ∈ o.terms, ∀ k, IcFits (o.recs k).length (t.ann k).length) ∧
      o.calcIc = .ok { o with terms := o.terms.map (icAll o) }) ∨
    ((¬ ∀ t ∈ o.terms, ∀ k, IcFits (o.recs k).length (t.ann k).length) ∧
      o.calcIc = .err .tryFromInt) := by
  rw [Onto.calcIc]
  -- a pass keeps annotation sets and records, so the later passes see the counts of `o`
  rcases calcIcKind_spec o .gene with ⟨h1, e1⟩ | ⟨h1, e1⟩
  · rw [e1, Res.bind_ok]
    rcases calcIcKind_spec _ .omim with ⟨h2, e2⟩ | ⟨h2, e2⟩
    · rw [e2, Res.bind_ok]
      rcases calcIcKind_spec _ .orpha with ⟨h3, e3⟩ | ⟨h3, e3⟩
      · rw [e3]
        simp only [List.forall_mem_map, setIc_ann] at h2 h3
        refine Or.inl ⟨fun t ht k => ?_, ?_⟩
        · cases k
          · exact h1 t ht
          · exact h2 t ht
          · exact h3 t ht
        · simp only [List.map_map, Function.comp_def, setIc_ann]; rfl
      · rw [e3]
        simp only [List.forall_mem_map, setIc_ann] at h3
        exact Or.inr ⟨fun h => h3 fun t ht => h t ht .orpha, rfl⟩
    · rw [e2]
      simp only [List.forall_mem_map, setIc_ann] at h2
      exact Or.inr ⟨fun h => h2 fun t ht => h t ht .omim, rfl⟩
  · rw [e1]
    exact Or.inr ⟨fun h => h1 fun t ht => h t ht .gene, rfl⟩

theorem calcIc_ok (o o' : Onto) (h : o.calcIc = .ok o') :
    o'.terms = o.terms.map (fun t =>
      ((t.setIc .gene (icPair o.genes.length t.genes.length)).setIc .omim
        (icPair o.omim.length t.omim.length)).setIc .orpha (icPair o.orpha.length t.orpha.length)) ∧
    o'.genes = o.genes ∧ o'.omim = o.omim ∧ o'.orpha = o.orpha := by
  rcases calcIc_spec o with ⟨_, e⟩ | ⟨_, e⟩
  · cases (Res.ok.inj (h.symm.trans e)); exact ⟨rfl, rfl, rfl, rfl⟩
  · exact nomatch h.symm.trans e

theorem calcIc_map_eq {o o' : Onto} (h : o.calcIc = .ok o') {α : Type} (π : Term → α)
    (hπ : ∀ t k v, π (t.setIc k v) = π t) :
    o' = { o with terms := o'.terms } ∧ o'.terms.map π = o.terms.map π := by
  rcases calcIc_spec o with ⟨_, e⟩ | ⟨_, e⟩
  · cases (Res.ok.inj (h.symm.trans e))
    refine ⟨rfl, ?_⟩
    rw [List.map_map]
    exact List.map_congr_left fun t _ => by simp only [Function.comp_apply, icAll, hπ]
  · exact nomatch h.symm.trans e

theorem calcIc_rest {o o' : Onto} (h : o.calcIc = .ok o') : o' = { o with terms := o'.terms } :=
  (calcIc_map_eq h (fun _ => ()) fun _ _ _ => rfl).1

theorem Binary.calcIc_total (o : Onto)
    (h : ∀ t ∈ o.terms, ∀ k, IcFits (o.recs k).length (t.ann k).length) :
    ∃ ts', o.calcIc = .ok { o with terms := ts' } := by
  rcases calcIc_spec o with ⟨_, e⟩ | ⟨hn, _⟩
  · exact ⟨_, e⟩
  · exact absurd h hn

theorem Binary.calcIc_fits (o o' : Onto) (h : o.calcIc = .ok o') :
    ∀ t ∈ o.terms, ∀ k, IcFits (o.recs k).length (t.ann k).length := by
  rcases calcIc_spec o with ⟨hf, _⟩ | ⟨_, e⟩
  · exact hf
  · exact nomatch h.symm.trans e

end Hpo
