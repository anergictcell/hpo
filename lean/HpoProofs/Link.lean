import HpoProofs.Frame
/-!
`link_gene_term` / `link_omim_disease_term` / `link_orpha_disease_term`: the recursive upward
propagation with early exit links a record to exactly the term and its ancestors.

The early exit ("already linked ⇒ all ancestors are linked as well") is sound because of the
invariant `UpClosedAbove`: upward-closedness of the record's links, restricted to the up-set of the
term being processed (the unrestricted invariant is false while a descendant is "in progress").
-/
namespace Hpo
open Group

section
variable (anc : Nat → List Nat) (ex : Nat → Prop)

/-- closure facts about the cached ancestor groups (established by C01) -/
structure AncClosure (rank : Nat → Nat) : Prop where
  trans : ∀ t a b, a ∈ anc t → b ∈ anc a → b ∈ anc t
  rank : ∀ t a, a ∈ anc t → rank a < rank t
  exist : ∀ t a, ex t → a ∈ anc t → ex a

/-- `x` is in the up-set of `t`: the terms a record annotated to `t` is linked to -/
def Up (t x : Nat) : Prop := x = t ∨ x ∈ anc t

/-- what `link` never changes and relies on -/
structure LState (k : Kind) (ts : List Term) : Prop where
  ancF : ∀ j, allOf ts j = anc j
  pres : ∀ j, (getT ts j).isSome ↔ ex j
  small : ∀ j, (getT ts j).isSome → j < maxId
  sortedA : ∀ j, Sorted (annOf k ts j)

/-- `ts'` differs from `ts` only in the `k`-annotation fields -/
def UpdAnn (k : Kind) (ts ts' : List Term) : Prop :=
  ts'.map (·.id) = ts.map (·.id) ∧
  ∀ j, getT ts' j = (getT ts j).map (fun t => t.setAnn k (annOf k ts' j))

end

theorem updAnn_of_erase {k : Kind} {ts ts' : List Term}
    (h : ts'.map (·.setAnn k []) = ts.map (·.setAnn k [])) : UpdAnn k ts ts' := by
  refine ⟨?_, fun j => ?_⟩
  · have := congrArg (List.map (·.id)) h
    simpa only [List.map_map, Function.comp_def, setAnn_id] using this
  · induction ts generalizing ts' with
    | nil => cases ts' with
      | nil => rfl
      | cons _ _ => cases h
    | cons t ts ih => cases ts' with
      | nil => cases h
      | cons t' ts' =>
        rw [List.map_cons, List.map_cons, List.cons.injEq] at h
        have hid : t'.id = t.id := by have := congrArg Term.id h.1; rwa [setAnn_id, setAnn_id] at this
        have ih := ih h.2
        simp only [getT, annOf, hid] at ih ⊢
        split
        · exact congrArg some (setAnn_of_erase h.1)
        · exact ih

theorem UpdAnn.refl (k : Kind) (ts : List Term) : UpdAnn k ts ts := updAnn_of_erase rfl

theorem UpdAnn.map_eq {k : Kind} {ts ts' : List Term} (h : UpdAnn k ts ts') {α : Type} (π : Term → α)
    (hπ : ∀ t v, π (t.setAnn k v) = π t) (j : Nat) : (getT ts' j).map π = (getT ts j).map π := by
  rw [h.2 j, Option.map_map]
  exact congrArg (Option.map · (getT ts j)) (funext fun t => hπ t _)

theorem UpdAnn.isSome {k : Kind} {ts ts' : List Term} (h : UpdAnn k ts ts') (j : Nat) :
    (getT ts' j).isSome = (getT ts j).isSome := by
  rw [h.2 j, Option.isSome_map]

theorem UpdAnn.all_eq {k : Kind} {ts ts' : List Term} (h : UpdAnn k ts ts') (j : Nat) :
    allOf ts' j = allOf ts j := by
  unfold allOf; rw [h.map_eq _ (fun t v => setAnn_allParents t k v)]

theorem UpdAnn.ann_ne {k k' : Kind} {ts ts' : List Term} (h : UpdAnn k ts ts') (hk : k' ≠ k) (j : Nat) :
    annOf k' ts' j = annOf k' ts j := by
  unfold annOf; rw [h.map_eq _ (fun t v => setAnn_ann_ne t k v k' hk)]

theorem UpdAnn.trans {k : Kind} {a b c : List Term} (h1 : UpdAnn k a b) (h2 : UpdAnn k b c) :
    UpdAnn k a c := by
  refine ⟨h2.1.trans h1.1, ?_⟩
  intro j
  rw [h2.2 j, h1.2 j]
  cases getT a j <;> simp [setAnn_setAnn]

theorem updAnn_set (k : Kind) (ts : List Term) (t : Nat) (v : List Nat) :
    UpdAnn k ts (modT ts t (fun x => x.setAnn k v)) :=
  updAnn_of_erase (modT_map ts t fun x => setAnn_setAnn x k v [])

theorem annOf_set (k : Kind) {ts : List Term} {t : Nat} {u : Term} (h : getT ts t = some u) (v : List Nat)
    (j : Nat) : annOf k (modT ts t (fun x => x.setAnn k v)) j = if j = t then v else annOf k ts j := by
  split
  · rename_i hj
    rw [hj, annOf, getT_modT_self _ _ _ (fun x => setAnn_id x k v), h]
    exact setAnn_ann u k v
  · rename_i hj
    rw [annOf, getT_modT_ne _ _ (fun x => setAnn_id x k v) hj, annOf]

section
variable (anc : Nat → List Nat) (ex : Nat → Prop)

/-- the invariant of the recursion (see the head of the file): inside the up-set of `t`, a term that carries
`r` has passed it on to all its ancestors -/
def UpClosedAbove (k : Kind) (ts : List Term) (r t : Nat) : Prop :=
  ∀ x, Up anc t x → r ∈ annOf k ts x → ∀ y ∈ anc x, r ∈ annOf k ts y

/-- what `link k r _ o t` has done when it returns (`link_post`); all that the annotation phase uses of the
recursion (`AnnInv.of_linkPost`) -/
structure LinkPost (k : Kind) (r t : Nat) (o o' : Onto) : Prop where
  rest : o' = { o with terms := o'.terms }
  upd : UpdAnn k o.terms o'.terms
  state : LState anc ex k o'.terms
  added : ∀ x, Up anc t x → r ∈ annOf k o'.terms x
  frame : ∀ x h, h ∈ annOf k o'.terms x ↔ h ∈ annOf k o.terms x ∨ (h = r ∧ Up anc t x)

/-- the part of `LinkPost` that needs the invariant; `rest` and `upd` hold of every call that returns
(`link_map_eq`) -/
structure LinkEff (k : Kind) (r t : Nat) (ts ts' : List Term) : Prop where
  state : LState anc ex k ts'
  frame : ∀ x h, h ∈ annOf k ts' x ↔ h ∈ annOf k ts x ∨ (h = r ∧ Up anc t x)

variable {anc} {ex}

theorem LState.upd {k : Kind} {ts ts' : List Term} (hs : LState anc ex k ts) (h : UpdAnn k ts ts')
    (hsorted : ∀ j, Sorted (annOf k ts' j)) : LState anc ex k ts' :=
  ⟨fun j => by rw [h.all_eq]; exact hs.ancF j,
   fun j => by rw [h.isSome]; exact hs.pres j,
   fun j hj => hs.small j (by rw [← h.isSome]; exact hj),
   hsorted⟩

/-- the one write of `link`: `term.add_gene(gene_id)` -/
theorem LState.insert {k : Kind} {ts : List Term} {t : Nat} {u : Term} (hst : LState anc ex k ts)
    (h : getT ts t = some u) (r : Nat) :
    LState anc ex k (modT ts t fun x => x.setAnn k (insert (annOf k ts t) r).1) ∧
    ∀ x h, h ∈ annOf k (modT ts t fun x => x.setAnn k (insert (annOf k ts t) r).1) x ↔
      h ∈ annOf k ts x ∨ (h = r ∧ x = t) := by
  refine ⟨hst.upd (updAnn_set k ts t _) fun j => ?_, fun x h' => ?_⟩
  · rw [annOf_set k h]
    split
    · exact sorted_insert _ _ (hst.sortedA t)
    · exact hst.sortedA j
  · rw [annOf_set k h]
    split
    · rename_i hx
      rw [mem_insert, hx, or_comm, and_iff_left rfl]
    · rename_i hx
      rw [or_iff_left fun e => hx e.2]

theorem linkFold_eff (k : Kind) (r : Nat) (fuel : Nat) (rank : Nat → Nat)
    (hc : AncClosure anc ex rank) (t : Nat)
    (ih : ∀ (o : Onto) (a : Nat), rank a < fuel → ex a → LState anc ex k o.terms →
      UpClosedAbove anc k o.terms r a →
      ∃ o', Onto.link k r fuel o a = .ok o' ∧ LinkEff anc ex k r a o.terms o'.terms)
    (hrk : ∀ a ∈ anc t, rank a < fuel) (hext : ex t) :
    ∀ (as : List Nat) (o1 : Onto), (∀ a ∈ as, a ∈ anc t) → LState anc ex k o1.terms →
      (∀ x, x ∈ anc t → r ∈ annOf k o1.terms x → ∀ y ∈ anc x, r ∈ annOf k o1.terms y) →
      ∃ o', Onto.linkFold (Onto.link k r fuel) as o1 = .ok o' ∧
        LState anc ex k o'.terms ∧
        (∀ x h, h ∈ annOf k o'.terms x ↔ h ∈ annOf k o1.terms x ∨ (h = r ∧ ∃ a ∈ as, Up anc a x)) := by
  intro as
  induction as with
  | nil =>
    intro o1 _ hst _
    exact ⟨o1, rfl, hst, by simp⟩
  | cons a as iha =>
    intro o1 hsub hst hcl
    have ha : a ∈ anc t := hsub a List.mem_cons_self
    have hat : ∀ x, Up anc a x → x ∈ anc t := by
      rintro x (rfl | hx)
      · exact ha
      · exact hc.trans t a x ha hx
    obtain ⟨o2, h2, p2⟩ := ih o1 a (hrk a ha) (hc.exist t a hext ha) hst
      fun x hx hgx y hy => hcl x (hat x hx) hgx y hy
    have hcl2 : ∀ x, x ∈ anc t → r ∈ annOf k o2.terms x → ∀ y ∈ anc x, r ∈ annOf k o2.terms y := by
      intro x hx hgx y hy
      rcases (p2.frame x r).1 hgx with h | ⟨_, hux⟩
      · exact (p2.frame y r).2 (Or.inl (hcl x hx h y hy))
      · refine (p2.frame y r).2 (Or.inr ⟨rfl, Or.inr ?_⟩)
        rcases hux with rfl | hux
        · exact hy
        · exact hc.trans a x y hux hy
    obtain ⟨o3, h3, hst3, q⟩ := iha o2 (fun b hb => hsub b (List.mem_cons_of_mem _ hb)) p2.state hcl2
    refine ⟨o3, by rw [Onto.linkFold, h2, Res.bind_ok, h3], hst3, fun x h => ?_⟩
    rw [q x h, p2.frame x h, or_assoc, ← and_or_left]
    simp only [List.mem_cons, exists_eq_or_imp]

theorem link_eff (k : Kind) (r : Nat) (rank : Nat → Nat) (hc : AncClosure anc ex rank) :
    ∀ fuel (o : Onto) (t : Nat), rank t < fuel → ex t → LState anc ex k o.terms →
      UpClosedAbove anc k o.terms r t →
      ∃ o', Onto.link k r fuel o t = .ok o' ∧ LinkEff anc ex k r t o.terms o'.terms := by
  intro fuel
  induction fuel with
  | zero => intro o t h; exact absurd h (Nat.not_lt_zero _)
  | succ fuel ih =>
    intro o t hr hext hst hup
    obtain ⟨tm, htm⟩ := Option.isSome_iff_exists.1 ((hst.pres t).2 hext)
    have hget : o.get t = some tm := by rw [get_eq_getT o t hst.small]; exact htm
    have hann : tm.ann k = annOf k o.terms t := (annOf_eq htm).symm
    have hall : tm.allParents = anc t := by rw [← hst.ancF t, allOf_eq htm]
    simp only [Onto.link, hget, hann, hall]
    by_cases hin : r ∈ annOf k o.terms t
    · -- early exit: already linked, hence (restricted upward-closedness) so are all ancestors
      rw [if_neg (by rw [(insert_snd_eq_false _ r (hst.sortedA t)).2 hin]; exact Bool.false_ne_true)]
      refine ⟨o, rfl, hst, fun x h => ⟨Or.inl, ?_⟩⟩
      rintro (h' | ⟨rfl, rfl | hx⟩)
      · exact h'
      · exact hin
      · exact hup t (Or.inl rfl) hin x hx
    · rw [if_pos ((insert_snd _ r (hst.sortedA t)).2 hin)]
      have htt : t ∉ anc t := fun h => Nat.lt_irrefl _ (hc.rank t t h)
      obtain ⟨hst1, hw⟩ := hst.insert htm r
      obtain ⟨o', h', hst', hfr⟩ :=
        linkFold_eff k r fuel rank hc t ih
          (fun a ha => Nat.lt_of_lt_of_le (hc.rank t a ha) (Nat.le_of_lt_succ hr)) hext (anc t)
          { o with terms := modT o.terms t fun x => x.setAnn k (insert (annOf k o.terms t) r).1 }
          (fun _ h => h) hst1 (by
            intro x hx hgx y hy
            -- a strict ancestor is not the term just written: it carried `r` before
            rcases (hw x r).1 hgx with hgx | ⟨_, rfl⟩
            · exact (hw y r).2 (Or.inl (hup x (Or.inr hx) hgx y hy))
            · exact absurd hx htt)
      refine ⟨o', h', hst', fun x h => ?_⟩
      have hup' : (∃ a ∈ anc t, Up anc a x) ↔ x ∈ anc t :=
        ⟨fun ⟨a, ha, hu⟩ => hu.elim (fun e => e ▸ ha) (hc.trans t a x ha), fun hx => ⟨x, hx, Or.inl rfl⟩⟩
      rw [hfr x h, hw x h, hup', or_assoc, ← and_or_left, Up]

section
variable (k : Kind) (r : Nat) {α : Type} (π : Term → α) (hπ : ∀ t v, π (t.setAnn k v) = π t)
include hπ

/-- A returning `link` seen through any projection `π` that `setAnn k` does not affect. With
`π := (·.setAnn k [])` this is "only `k`-annotation sets change", from which `updAnn_of_erase` recovers `UpdAnn`
(`link_post`); with `π := fun _ => ()` the first half alone is left (`annotate_map_eq`). -/
theorem link_map_eq (fuel : Nat) (o : Onto) (t : Nat) (o' : Onto) (h : Onto.link k r fuel o t = .ok o') :
    o' = { o with terms := o'.terms } ∧ o'.terms.map π = o.terms.map π :=
  Onto.link_preorder
    (R := fun o o' => o' = { o with terms := o'.terms } ∧ o'.terms.map π = o.terms.map π)
    (fun _ => ⟨rfl, rfl⟩) (fun h1 h2 => ⟨by rw [h2.1, h1.1], h2.2.trans h1.2⟩)
    (fun o t v => ⟨rfl, modT_map _ _ fun x => hπ x v⟩) r fuel o t o' h
end

variable (anc) (ex)

/-- `link` from `t`, on a state whose links of `r` are upward closed above `t`: it returns, `r` is on
`t` and all its ancestors afterwards, and nothing else has changed -/
theorem link_post (k : Kind) (r : Nat) (rank : Nat → Nat) (hc : AncClosure anc ex rank) :
    ∀ fuel (o : Onto) (t : Nat), rank t < fuel → ex t → LState anc ex k o.terms →
      UpClosedAbove anc k o.terms r t →
      ∃ o', Onto.link k r fuel o t = .ok o' ∧ LinkPost anc ex k r t o o' := by
  intro fuel o t hr hext hst hup
  obtain ⟨o', h, e⟩ := link_eff k r rank hc fuel o t hr hext hst hup
  obtain ⟨hrest, hmap⟩ := link_map_eq k r (·.setAnn k []) (fun _ _ => setAnn_setAnn _ _ _ _) fuel o t o' h
  exact ⟨o', h, hrest, updAnn_of_erase hmap, e.state, fun x hx => (e.frame x r).2 (Or.inr ⟨rfl, hx⟩), e.frame⟩

end
end Hpo
