import HpoModel.Linkage
import Mathlib.Algebra.BigOperators.Group.Finset.Basic
/-!
Helper lemmas for C17.  The distance matrix is a keyed list; the three loops that write it
(`Linkage::new`, the inner loops of `arithmetic_cluster` and of `cluster_set_unions`) are all
`zipInsert` of one key per live entry, taken from the list `live` of the `Some` entries of `sets`
in index order.  `Step` is what one merge does to the bookkeeping, whatever the method; `Inv` is
the invariant of the loop; `run_invariant` carries a predicate through `run` and `trace` for any
step function, `cluster_invariant` through the loop of `cluster` together with `Inv`.
The comparison `lt` and the mean `mean` are arguments of the model (Similarity and Combine are over
`[Num F]` instead): the theorems assume at most a strict linear order of `lt` and nothing of `mean`;
the code's `<` and `(v1 + v2) / 2.0` on `f32` are supplied by the driver only (`f32lt`, `f32mean`
in `HpoModel/Drv/Linkage.lean`).
-/
namespace Hpo
namespace Linkage
variable {F : Type}

/-! ### distance matrix -/

def keysOf (dm : DM F) : List (Nat × Nat) := dm.map (·.1)

theorem mem_keys_of_mem {dm : DM F} {e : (Nat × Nat) × F} (h : e ∈ dm) : e.1 ∈ keysOf dm :=
  List.mem_map.2 ⟨e, h, rfl⟩

theorem dmGet_isSome_iff (dm : DM F) (k : Nat × Nat) : (dmGet dm k).isSome ↔ k ∈ keysOf dm := by
  fun_induction dmGet dm k <;> grind [keysOf]

theorem dmGet_mem (dm : DM F) (k : Nat × Nat) (v : F) (h : dmGet dm k = some v) : (k, v) ∈ dm := by
  fun_induction dmGet dm k <;> grind

theorem dmGet_of_mem (dm : DM F) (hn : (keysOf dm).Nodup) (k : Nat × Nat) (v : F) (h : (k, v) ∈ dm) :
    dmGet dm k = some v := by
  induction dm with
  | nil => cases h
  | cons e rest ih =>
    obtain ⟨k', v'⟩ := e
    simp only [keysOf, List.map_cons, List.nodup_cons] at hn
    rcases List.mem_cons.1 h with heq | hmem
    · cases heq; simp [dmGet]
    · have hne : k' ≠ k := by
        intro he; subst he
        exact hn.1 (List.mem_map.2 ⟨(k', v), hmem, rfl⟩)
      simp only [dmGet, hne, if_false]
      exact ih hn.2 hmem

theorem dmGet_dmInsert (dm : DM F) (k : Nat × Nat) (v : F) (q : Nat × Nat) :
    dmGet (dmInsert dm k v) q = if k = q then some v else dmGet dm q := by
  fun_induction dmInsert dm k v <;> grind [dmGet]

theorem keys_dmInsert (dm : DM F) (k : Nat × Nat) (v : F) :
    keysOf (dmInsert dm k v) = if k ∈ keysOf dm then keysOf dm else keysOf dm ++ [k] := by
  fun_induction dmInsert dm k v <;> grind [keysOf]

theorem mem_keys_dmInsert (dm : DM F) (k : Nat × Nat) (v : F) (q : Nat × Nat) :
    q ∈ keysOf (dmInsert dm k v) ↔ q = k ∨ q ∈ keysOf dm := by
  rw [← dmGet_isSome_iff, ← dmGet_isSome_iff, dmGet_dmInsert]
  split
  · rename_i h; simp [h]
  · rename_i h; simp [Ne.symm h]

theorem nodup_keys_dmInsert (dm : DM F) (k : Nat × Nat) (v : F) (h : (keysOf dm).Nodup) :
    (keysOf (dmInsert dm k v)).Nodup := by
  rw [keys_dmInsert]
  split
  · exact h
  · rename_i hk
    exact List.Nodup.append h (List.nodup_singleton k) (by simpa using hk)

theorem dmRetain_eq_filter (a b : Nat) (dm : DM F) :
    dmRetain a b dm = dm.filter fun e => e.1.1 ≠ a ∧ e.1.1 ≠ b ∧ e.1.2 ≠ a ∧ e.1.2 ≠ b := by
  fun_induction dmRetain a b dm with
  | case1 => rfl
  | case2 k v rest hk ih => rw [List.filter_cons_of_pos (a := (k, v)) (decide_eq_true hk), ih]
  | case3 k v rest hk ih =>
    rw [List.filter_cons_of_neg (a := (k, v)) (by rw [decide_eq_true_eq]; exact hk), ih]

theorem mem_dmRetain (a b : Nat) (dm : DM F) (e : (Nat × Nat) × F) :
    e ∈ dmRetain a b dm ↔ e ∈ dm ∧ e.1.1 ≠ a ∧ e.1.1 ≠ b ∧ e.1.2 ≠ a ∧ e.1.2 ≠ b := by
  rw [dmRetain_eq_filter, List.mem_filter, decide_eq_true_eq]

theorem dmRetain_sublist (a b : Nat) (dm : DM F) : (dmRetain a b dm).Sublist dm :=
  dmRetain_eq_filter a b dm ▸ List.filter_sublist

theorem dmGet_dmRetain (a b : Nat) (dm : DM F) (q : Nat × Nat) :
    dmGet (dmRetain a b dm) q =
      if q.1 ≠ a ∧ q.1 ≠ b ∧ q.2 ≠ a ∧ q.2 ≠ b then dmGet dm q else none := by
  fun_induction dmRetain a b dm <;> grind [dmGet]

theorem mem_keys_dmRetain (a b : Nat) (dm : DM F) (q : Nat × Nat) :
    q ∈ keysOf (dmRetain a b dm) ↔ q ∈ keysOf dm ∧ q.1 ≠ a ∧ q.1 ≠ b ∧ q.2 ≠ a ∧ q.2 ≠ b := by
  rw [← dmGet_isSome_iff, ← dmGet_isSome_iff, dmGet_dmRetain]
  split
  · rename_i h; exact ⟨fun h' => ⟨h', h⟩, fun h' => h'.1⟩
  · rename_i h; exact ⟨fun h' => (nomatch h'), fun h' => absurd h'.2 h⟩

theorem nodup_keys_dmRetain (a b : Nat) (dm : DM F) (h : (keysOf dm).Nodup) :
    (keysOf (dmRetain a b dm)).Nodup :=
  List.Nodup.sublist ((dmRetain_sublist a b dm).map _) h

/-! ### `zipInsert`: the three loops that write the matrix are instances of it -/

theorem nodup_keys_zipInsert (dm : DM F) (ks : List (Nat × Nat)) (vs : List F)
    (h : (keysOf dm).Nodup) : (keysOf (zipInsert dm ks vs)).Nodup := by
  fun_induction zipInsert dm ks vs with
  | case1 => exact h
  | case2 => exact h
  | case3 dm k ks v vs ih => exact ih (nodup_keys_dmInsert dm k v h)

theorem mem_keys_zipInsert (dm : DM F) (ks : List (Nat × Nat)) (vs : List F)
    (h : ks.length ≤ vs.length) (q : Nat × Nat) :
    q ∈ keysOf (zipInsert dm ks vs) ↔ q ∈ keysOf dm ∨ q ∈ ks := by
  fun_induction zipInsert dm ks vs with
  | case1 => simp
  | case2 dm ks hks => cases ks <;> simp_all
  | case3 dm k ks v vs ih =>
    rw [ih (by simpa using h), mem_keys_dmInsert, List.mem_cons, or_assoc, or_left_comm]

theorem dmGet_zipInsert_of_not_mem (dm : DM F) (ks : List (Nat × Nat)) (vs : List F)
    (q : Nat × Nat) (h : q ∉ ks) : dmGet (zipInsert dm ks vs) q = dmGet dm q := by
  fun_induction zipInsert dm ks vs with
  | case1 => rfl
  | case2 => rfl
  | case3 dm k ks v vs ih =>
    rw [List.mem_cons, not_or] at h
    rw [ih h.2, dmGet_dmInsert, if_neg (Ne.symm h.1)]

theorem dmGet_zipInsert_map {ι : Type} (dm : DM F) (es : List ι) (k : ι → Nat × Nat) (v : ι → F)
    (vs : List F) (hv : es.map v <+: vs) (hn : (es.map k).Nodup) (e : ι) (he : e ∈ es) :
    dmGet (zipInsert dm (es.map k) vs) (k e) = some (v e) := by
  obtain ⟨t, rfl⟩ := hv
  induction es generalizing dm with
  | nil => cases he
  | cons x es ih =>
    rw [List.map_cons, List.nodup_cons] at hn
    simp only [List.map_cons, List.cons_append, zipInsert]
    rcases List.mem_cons.1 he with rfl | he
    · rw [dmGet_zipInsert_of_not_mem _ _ _ _ hn.1, dmGet_dmInsert, if_pos rfl]
    · exact ih _ hn.2 he

/-! ### closest pair -/

theorem closestGo_mem (lt : F → F → Bool) (best : (Nat × Nat) × F) (dm : DM F) :
    closestGo lt best dm = best ∨ closestGo lt best dm ∈ dm := by
  fun_induction closestGo lt best dm <;> grind

theorem closest_mem (lt : F → F → Bool) (dm : DM F) (e : (Nat × Nat) × F)
    (h : closest lt dm = some e) : e ∈ dm := by
  cases dm with
  | nil => simp [closest] at h
  | cons x rest =>
    simp only [closest, Option.some.injEq] at h
    subst h
    exact (closestGo_mem lt x rest).elim (fun h => h.symm ▸ List.mem_cons_self)
      (List.mem_cons_of_mem _)

theorem closest_isSome (lt : F → F → Bool) (dm : DM F) (h : dm ≠ []) : (closest lt dm).isSome := by
  cases dm with
  | nil => exact absurd rfl h
  | cons x rest => simp [closest]

theorem closestGo_min [LinearOrder F] (lt : F → F → Bool) (hlt : ∀ a b, lt a b = true ↔ a < b)
    (best : (Nat × Nat) × F) (dm : DM F) :
    (closestGo lt best dm).2 ≤ best.2 ∧ ∀ e ∈ dm, (closestGo lt best dm).2 ≤ e.2 := by
  induction dm generalizing best with
  | nil => exact ⟨le_rfl, fun _ h => nomatch h⟩
  | cons x rest ih =>
    rw [closestGo]
    obtain ⟨h1, h2⟩ := ih (if lt x.2 best.2 then x else best)
    have hb : (if lt x.2 best.2 then x else best).2 ≤ best.2 ∧
        (if lt x.2 best.2 then x else best).2 ≤ x.2 := by
      split
      · rename_i h; exact ⟨le_of_lt ((hlt _ _).1 h), le_rfl⟩
      · rename_i h; exact ⟨le_rfl, not_lt.1 fun hc => h ((hlt _ _).2 hc)⟩
    exact ⟨h1.trans hb.1, fun e he => (List.mem_cons.1 he).elim (fun h => h ▸ h1.trans hb.2) (h2 e)⟩

theorem closest_min [LinearOrder F] (lt : F → F → Bool) (hlt : ∀ a b, lt a b = true ↔ a < b)
    (dm : DM F) (e : (Nat × Nat) × F) (h : closest lt dm = some e) :
    e ∈ dm ∧ ∀ e' ∈ dm, e.2 ≤ e'.2 := by
  refine ⟨closest_mem lt dm e h, ?_⟩
  cases dm with
  | nil => simp [closest] at h
  | cons x rest =>
    simp only [closest, Option.some.injEq] at h
    subst h
    exact List.forall_mem_cons.2 (closestGo_min lt hlt x rest)

/-! ### the live entries of `sets`, in index order -/

def isLive (sets : List (Option (List Nat))) (i : Nat) : Bool :=
  match sets[i]? with
  | some (some _) => true
  | _ => false

theorem isLive_iff (sets : List (Option (List Nat))) (i : Nat) :
    isLive sets i = true ↔ ∃ x, sets[i]? = some (some x) := by
  rw [isLive]
  rcases sets[i]? with _ | _ | x <;> simp

theorem isLive_lt {sets : List (Option (List Nat))} {i : Nat} (h : isLive sets i = true) :
    i < sets.length := by
  obtain ⟨x, hx⟩ := (isLive_iff sets i).1 h
  exact (List.getElem?_eq_some_iff.1 hx).1

/-- the `Some` entries of `rest` with their positions counted from `idx`: what the loops over
`sets.iter().enumerate()` and over `Combinations` visit, in that order -/
def live {α : Type} (rest : List (Option α)) (idx : Nat) : List (Nat × α) :=
  (rest.zipIdx idx).filterMap fun p => p.1.map (p.2, ·)

theorem live_none {α : Type} (r : List (Option α)) (idx : Nat) :
    live (none :: r) idx = live r (idx + 1) := by
  simp [live]

theorem live_some {α : Type} (x : α) (r : List (Option α)) (idx : Nat) :
    live (some x :: r) idx = (idx, x) :: live r (idx + 1) := by
  simp [live]

theorem mem_live {α : Type} (rest : List (Option α)) (idx i : Nat) (x : α) :
    (i, x) ∈ live rest idx ↔ idx ≤ i ∧ rest[i - idx]? = some (some x) := by
  rw [live, List.mem_filterMap]
  constructor
  · rintro ⟨⟨s, j⟩, hm, hs⟩
    cases s with
    | none => cases hs
    | some y =>
      cases hs
      exact List.mk_mem_zipIdx_iff_le_and_getElem?_sub.1 hm
  · intro h
    exact ⟨(some x, i), List.mk_mem_zipIdx_iff_le_and_getElem?_sub.2 h, rfl⟩

theorem nodup_live {α : Type} (rest : List (Option α)) (idx : Nat) :
    ((live rest idx).map (·.1)).Nodup := by
  induction rest generalizing idx with
  | nil => simp [live]
  | cons s r ih =>
    cases s with
    | none => rw [live_none]; exact ih _
    | some x =>
      rw [live_some, List.map_cons, List.nodup_cons]
      refine ⟨fun h => ?_, ih _⟩
      obtain ⟨⟨i, y⟩, hm, rfl⟩ := List.mem_map.1 h
      exact Nat.not_succ_le_self i ((mem_live _ _ _ _).1 hm).1

theorem nodup_live_keys {α : Type} (rest : List (Option α)) (idx new : Nat) :
    ((live rest idx).map fun e => (e.1, new)).Nodup := by
  simpa only [List.map_map, Function.comp_def] using
    (nodup_live rest idx).map (f := (·, new)) fun _ _ h => (Prod.mk.inj h).1

theorem length_takeTwo (sets : List (Option (List Nat))) (a b : Nat) :
    (takeTwo sets a b).length = sets.length := by
  simp [takeTwo]

theorem getElem?_set_none_eq_some {α : Type} (l : List (Option α)) (a i : Nat) (x : α) :
    (l.set a none)[i]? = some (some x) ↔ l[i]? = some (some x) ∧ i ≠ a := by
  rw [List.getElem?_set]
  split
  · rename_i h
    subst h
    exact ⟨fun h => (by split at h <;> cases h), fun h => absurd rfl h.2⟩
  · rename_i h
    exact ⟨fun h' => ⟨h', fun e => h e.symm⟩, fun h' => h'.1⟩

theorem getElem?_takeTwo_eq_some (sets : List (Option (List Nat))) (a b i : Nat) (x : List Nat) :
    (takeTwo sets a b)[i]? = some (some x) ↔ sets[i]? = some (some x) ∧ i ≠ a ∧ i ≠ b := by
  rw [takeTwo, getElem?_set_none_eq_some, getElem?_set_none_eq_some, and_assoc]

theorem isLive_merge (sets : List (Option (List Nat))) (a b : Nat) (m : List Nat) (i : Nat) :
    isLive (takeTwo sets a b ++ [some m]) i = true ↔
      (isLive sets i = true ∧ i ≠ a ∧ i ≠ b) ∨ i = sets.length := by
  simp only [isLive_iff]
  rcases Nat.lt_trichotomy i sets.length with h | rfl | h
  · rw [List.getElem?_append_left (by rwa [length_takeTwo])]
    simp only [getElem?_takeTwo_eq_some, exists_and_right, Nat.ne_of_lt h, or_false]
  · rw [List.getElem?_append_right (Nat.le_of_eq (length_takeTwo ..)), length_takeTwo, Nat.sub_self]
    exact ⟨fun _ => Or.inr rfl, fun _ => ⟨m, rfl⟩⟩
  · rw [List.getElem?_eq_none (by rw [List.length_append, length_takeTwo]; exact h),
      List.getElem?_eq_none (Nat.le_of_lt h)]
    constructor
    · rintro ⟨_, hx⟩; cases hx
    · rintro (⟨⟨_, hx⟩, _⟩ | hx)
      · cases hx
      · exact absurd hx (Nat.ne_of_gt h)

theorem mem_live_takeTwo (sets : List (Option (List Nat))) (a b i : Nat) (x : List Nat) :
    (i, x) ∈ live (takeTwo sets a b) 0 ↔ sets[i]? = some (some x) ∧ i ≠ a ∧ i ≠ b := by
  rw [mem_live, Nat.sub_zero, getElem?_takeTwo_eq_some]
  exact and_iff_right (Nat.zero_le i)

theorem mem_keys_live_takeTwo (sets : List (Option (List Nat))) (a b new : Nat) (q : Nat × Nat) :
    q ∈ (live (takeTwo sets a b) 0).map (fun e => (e.1, new)) ↔
      ∃ i, isLive sets i = true ∧ i ≠ a ∧ i ≠ b ∧ q = (i, new) := by
  simp only [List.mem_map, Prod.exists, mem_live_takeTwo, isLive_iff]
  constructor
  · rintro ⟨i, x, ⟨h1, h2, h3⟩, rfl⟩; exact ⟨i, ⟨x, h1⟩, h2, h3, rfl⟩
  · rintro ⟨i, ⟨x, h1⟩, h2, h3, rfl⟩; exact ⟨i, x, ⟨h1, h2, h3⟩, rfl⟩

theorem live_takeTwo_ne (sets : List (Option (List Nat))) (a b : Nat) (e : Nat × List Nat)
    (he : e ∈ live (takeTwo sets a b) 0) : e.1 ≠ a ∧ e.1 ≠ b :=
  ((mem_live_takeTwo _ _ _ e.1 e.2).1 he).2

/-! ### the row loops -/

/-- the inner loop of `cluster_set_unions` on the callback's answers for `(m, setᵢ)`, `i` live in
index order, and `(m, m)` (which the loop does not consume): it stores the answer for the live
entry `i` under `(i, last)` -/
theorem unionRow_rowPairs (last : Nat) (dist : List Nat → List Nat → F) (m : List Nat)
    (rest : List (Option (List Nat))) (idx : Nat) (dm : DM F) :
    unionRow last rest idx ((rowPairs m (rest ++ [some m])).map fun p => dist p.1 p.2) dm =
      some (zipInsert dm ((live rest idx).map fun e => (e.1, last))
        ((live rest idx).map (fun e => dist m e.2) ++ [dist m m])) := by
  induction rest generalizing idx dm with
  | nil => simp [unionRow, live, zipInsert]
  | cons s r ih =>
    cases s with
    | none => rw [live_none, List.cons_append, rowPairs, unionRow, ih]
    | some x =>
      rw [live_some, List.cons_append, rowPairs, List.map_cons, unionRow, ih]
      rfl

theorem keyOf_ne {c new idx : Nat} (hc : c < new) (hne : idx ≠ c) (i : Nat) :
    keyOf i c ≠ (idx, new) := by
  unfold keyOf
  split
  · exact fun h => Nat.ne_of_lt hc (congrArg Prod.snd h)
  · exact fun h => hne (congrArg Prod.fst h).symm

theorem arithRow_isSome (comb : F → F → F) (a b new : Nat) (rest : List (Option (List Nat)))
    (idx : Nat) (dm : DM F)
    (h : ∀ e ∈ live rest idx, keyOf e.1 a ∈ keysOf dm ∧ keyOf e.1 b ∈ keysOf dm) :
    (arithRow comb a b new rest idx dm).isSome := by
  induction rest generalizing idx dm with
  | nil => rfl
  | cons s r ih =>
    cases s with
    | none =>
      rw [arithRow, ite_self]
      exact ih _ _ fun e he => h e (by rwa [live_none])
    | some x =>
      rw [live_some] at h
      have htl := fun e he => h e (List.mem_cons_of_mem _ he)
      rw [arithRow]
      split
      · exact ih _ _ htl
      · obtain ⟨h1, h2⟩ := h (idx, x) List.mem_cons_self
        obtain ⟨v1, hv1⟩ := Option.isSome_iff_exists.1 ((dmGet_isSome_iff dm _).2 h1)
        obtain ⟨v2, hv2⟩ := Option.isSome_iff_exists.1 ((dmGet_isSome_iff dm _).2 h2)
        simp only [hv1, hv2]
        exact ih _ _ fun e he => ⟨(mem_keys_dmInsert ..).2 (Or.inr (htl e he).1),
          (mem_keys_dmInsert ..).2 (Or.inr (htl e he).2)⟩

/-- `es`: the live indices in order, each with its two old distances.  They are read in `dm`
itself: the loop writes keys `(i, new)` only and reads none of them, as `a, b < new` and the
entries `a` and `b` are skipped. -/
theorem arithRow_eq_some (comb : F → F → F) (a b new : Nat) (ha : a < new) (hb : b < new)
    (rest : List (Option (List Nat))) (idx : Nat) (dm dm' : DM F)
    (hab : ∀ e ∈ live rest idx, e.1 ≠ a ∧ e.1 ≠ b)
    (h : arithRow comb a b new rest idx dm = some dm') :
    ∃ es : List (Nat × F × F),
      es.map (fun e => (e.1, new)) = (live rest idx).map (fun e => (e.1, new)) ∧
      (∀ e ∈ es, dmGet dm (keyOf e.1 a) = some e.2.1 ∧ dmGet dm (keyOf e.1 b) = some e.2.2) ∧
      dm' = zipInsert dm (es.map fun e => (e.1, new)) (es.map fun e => comb e.2.1 e.2.2) := by
  induction rest generalizing idx dm with
  | nil =>
    rw [arithRow, Option.some.injEq] at h
    exact ⟨[], rfl, fun _ he => (nomatch he), h.symm⟩
  | cons s r ih =>
    cases s with
    | none =>
      rw [arithRow, ite_self] at h
      rw [live_none] at hab ⊢
      exact ih _ _ hab h
    | some x =>
      rw [live_some] at hab ⊢
      have h0 := hab (idx, x) List.mem_cons_self
      rw [arithRow, if_neg (not_or.2 h0)] at h
      split at h
      · rename_i v1 v2 hv1 hv2
        obtain ⟨es, h1, h2, h3⟩ := ih _ _ (fun e he => hab e (List.mem_cons_of_mem _ he)) h
        refine ⟨(idx, v1, v2) :: es, by rw [List.map_cons, List.map_cons, h1], ?_, by rw [h3]; rfl⟩
        intro e he
        rcases List.mem_cons.1 he with rfl | he
        · exact ⟨hv1, hv2⟩
        · have := h2 e he
          rwa [dmGet_dmInsert, dmGet_dmInsert, if_neg (keyOf_ne ha h0.1 _).symm,
            if_neg (keyOf_ne hb h0.2 _).symm] at this
      · cases h

/-! ### `new_cluster` and the sizes -/

theorem sub_lt_of_lt_add {i n k : Nat} (hn : ¬ i < n) (h : i < n + k) : i - n < k :=
  Nat.sub_lt_left_of_lt_add (Nat.le_of_not_lt hn) h

/-- size of the entry `idx` (1 for an input, the recorded size for a cluster) -/
def sz (n : Nat) (cl : List (Cluster F)) (idx : Nat) : Nat := (sizeOf n cl idx).getD 0

theorem sz_input (n : Nat) (cl : List (Cluster F)) (i : Nat) (h : i < n) : sz n cl i = 1 := by
  simp [sz, sizeOf, h]

theorem sz_cluster (n : Nat) (cl : List (Cluster F)) (k : Nat) (h : k < cl.length) :
    sz n cl (n + k) = cl[k].size := by
  rw [sz, sizeOf, if_neg (Nat.not_lt.2 (Nat.le_add_right n k)), Nat.add_sub_cancel_left,
    List.getElem?_eq_getElem h]
  rfl

theorem mkCluster_fields {n : Nat} {cl : List (Cluster F)} {a b : Nat} {d : F} {c : Cluster F}
    (h : mkCluster n cl a b d = some c) :
    c.lhs = a ∧ c.rhs = b ∧ c.dist = d ∧ c.size = sz n cl a + sz n cl b := by
  unfold mkCluster at h
  split at h
  · rename_i sa sb h1 h2
    cases h
    simp [sz, h1, h2]
  · cases h

theorem sz_take (n : Nat) (cl : List (Cluster F)) (k i : Nat) (h : i < n + k) :
    sz n (cl.take k) i = sz n cl i := by
  unfold sz sizeOf
  split
  · rfl
  · rw [List.getElem?_take_of_lt (sub_lt_of_lt_add ‹_› h)]

theorem sz_append (n : Nat) (cl l : List (Cluster F)) (i : Nat)
    (h : i < n + cl.length) : sz n (cl ++ l) i = sz n cl i := by
  rw [← sz_take n (cl ++ l) cl.length i h, List.take_left' rfl]

theorem sizeOf_isSome (n : Nat) (cl : List (Cluster F)) (i : Nat) (h : i < n + cl.length) :
    ∃ x, sizeOf n cl i = some x := by
  unfold sizeOf
  split
  · exact ⟨1, rfl⟩
  · rw [List.getElem?_eq_getElem (sub_lt_of_lt_add ‹_› h)]
    exact ⟨_, rfl⟩

theorem mkCluster_isSome (n : Nat) (cl : List (Cluster F)) (a b : Nat) (d : F)
    (ha : a < n + cl.length) (hb : b < n + cl.length) : (mkCluster n cl a b d).isSome := by
  obtain ⟨x, hx⟩ := sizeOf_isSome n cl a ha
  obtain ⟨y, hy⟩ := sizeOf_isSome n cl b hb
  rw [mkCluster, hx, hy]
  rfl

/-! ### one merge -/

/-- the keys of the distance matrix are exactly the pairs `i < j` of live entries, each once -/
def KeysOK (s : State F) : Prop :=
  (keysOf s.dm).Nodup ∧
  ∀ q : Nat × Nat, q ∈ keysOf s.dm ↔
    (q.1 < q.2 ∧ isLive s.sets q.1 = true ∧ isLive s.sets q.2 = true)

/-- What one iteration of either loop does to the bookkeeping: the closest pair is recorded as the
new cluster `c`, `c.lhs` and `c.rhs` are taken, their union is appended as the new entry (index =
old length), and the matrix loses every key touching `c.lhs` or `c.rhs` and gains one key per
remaining live entry. -/
structure Step (lt : F → F → Bool) (s s' : State F) (c : Cluster F) : Prop where
  closest : closest lt s.dm = some ((c.lhs, c.rhs), c.dist)
  made : mkCluster s.n s.clusters c.lhs c.rhs c.dist = some c
  clusters : s'.clusters = s.clusters ++ [c]
  n : s'.n = s.n
  sets : ∃ m, s'.sets = takeTwo s.sets c.lhs c.rhs ++ [some m]
  log : ∃ l, s'.log = s.log ++ l
  keys : ∀ q, q ∈ keysOf s'.dm ↔
    (q ∈ keysOf s.dm ∧ q.1 ≠ c.lhs ∧ q.1 ≠ c.rhs ∧ q.2 ≠ c.lhs ∧ q.2 ≠ c.rhs) ∨
    ∃ i, isLive s.sets i = true ∧ i ≠ c.lhs ∧ i ≠ c.rhs ∧ q = (i, s.sets.length)
  nodup : (keysOf s'.dm).Nodup

theorem arithStep_eq_some_iff (lt : F → F → Bool) (comb : F → F → F) (s s' : State F) :
    arithStep lt comb s = some s' ↔
      ∃ a b d c dm1, closest lt s.dm = some ((a, b), d) ∧ mkCluster s.n s.clusters a b d = some c ∧
        (a < s.sets.length ∧ b < s.sets.length) ∧
        arithRow comb a b s.sets.length (takeTwo s.sets a b) 0 s.dm = some dm1 ∧
        s' = { s with
          sets := takeTwo s.sets a b ++ [(s.sets[a]?).join]
          dm := dmRetain a b dm1
          clusters := s.clusters ++ [c] } := by
  constructor
  · intro h
    unfold arithStep at h
    split at h
    · cases h
    · rename_i e he
      split at h
      · cases h
      · rename_i c hc
        split at h
        · rename_i hlt
          split at h
          · cases h
          · rename_i dm1 hr
            exact ⟨e.1.1, e.1.2, e.2, c, dm1, he, hc, hlt, hr, (Option.some.inj h).symm⟩
        · cases h
  · rintro ⟨a, b, d, c, dm1, he, hc, hlt, hr, rfl⟩
    simp only [arithStep, he, hc, hlt, and_self, if_true, hr]

theorem closest_live {lt : F → F → Bool} {s : State F} (hk : KeysOK s) {a b : Nat} {d : F}
    (he : closest lt s.dm = some ((a, b), d)) :
    a < b ∧ isLive s.sets a = true ∧ isLive s.sets b = true :=
  (hk.2 (a, b)).1 (mem_keys_of_mem (closest_mem lt s.dm _ he))

theorem keyOf_mem (s : State F) (hk : KeysOK s) (i c : Nat) (hi : isLive s.sets i = true)
    (hc : isLive s.sets c = true) (hne : i ≠ c) : keyOf i c ∈ keysOf s.dm := by
  unfold keyOf
  split
  · exact (hk.2 _).2 ⟨by assumption, hi, hc⟩
  · exact (hk.2 _).2 ⟨Nat.lt_of_le_of_ne (Nat.le_of_not_lt ‹_›) hne.symm, hc, hi⟩

theorem Step.of_arith {lt : F → F → Bool} {comb : F → F → F} {s s' : State F} (hk : KeysOK s)
    (h : arithStep lt comb s = some s') : ∃ c, Step lt s s' c := by
  obtain ⟨a, b, d, c, dm1, he, hc, hlt, hr, rfl⟩ := (arithStep_eq_some_iff ..).1 h
  obtain ⟨rfl, rfl, rfl, _⟩ := mkCluster_fields hc
  obtain ⟨x, hx⟩ := (isLive_iff _ _).1 (closest_live hk he).2.1
  obtain ⟨es, hks, _, rfl⟩ := arithRow_eq_some comb _ _ _ hlt.1 hlt.2 _ 0 _ _
    (live_takeTwo_ne _ _ _) hr
  refine ⟨c, he, hc, rfl, rfl, ⟨x, by rw [hx]; rfl⟩, ⟨[], by simp⟩, fun q => ?_,
    nodup_keys_dmRetain _ _ _ (nodup_keys_zipInsert _ _ _ hk.1)⟩
  simp only
  rw [mem_keys_dmRetain, mem_keys_zipInsert _ _ _ (by simp), hks, mem_keys_live_takeTwo]
  constructor
  · rintro ⟨h | h, hu⟩
    · exact Or.inl ⟨h, hu⟩
    · exact Or.inr h
  · rintro (⟨h, hu⟩ | ⟨i, hi, hia, hib, rfl⟩)
    · exact ⟨Or.inl h, hu⟩
    · exact ⟨Or.inr ⟨i, hi, hia, hib, rfl⟩, hia, hib, Nat.ne_of_gt hlt.1, Nat.ne_of_gt hlt.2⟩

theorem exists_closest (lt : F → F → Bool) (s : State F) (hk : KeysOK s)
    (hl : s.sets.length = s.n + s.clusters.length) (hne : s.dm ≠ []) :
    ∃ a b d c, closest lt s.dm = some ((a, b), d) ∧ mkCluster s.n s.clusters a b d = some c ∧
      a < b ∧ isLive s.sets a = true ∧ isLive s.sets b = true := by
  obtain ⟨⟨⟨a, b⟩, d⟩, he⟩ := Option.isSome_iff_exists.1 (closest_isSome lt s.dm hne)
  obtain ⟨hab, hla, hlb⟩ := closest_live hk he
  obtain ⟨c, hc⟩ := Option.isSome_iff_exists.1 (mkCluster_isSome s.n s.clusters a b d
    (hl ▸ isLive_lt hla) (hl ▸ isLive_lt hlb))
  exact ⟨a, b, d, c, he, hc, hab, hla, hlb⟩

theorem arithStep_isSome (lt : F → F → Bool) (comb : F → F → F) (s : State F) (hk : KeysOK s)
    (hl : s.sets.length = s.n + s.clusters.length) (hne : s.dm ≠ []) :
    (arithStep lt comb s).isSome := by
  obtain ⟨a, b, d, c, he, hc, hab, hla, hlb⟩ := exists_closest lt s hk hl hne
  obtain ⟨dm1, hr⟩ := Option.isSome_iff_exists.1
    (arithRow_isSome comb a b s.sets.length (takeTwo s.sets a b) 0 s.dm fun e he => by
      obtain ⟨h1, h2, h3⟩ := (mem_live_takeTwo _ _ _ e.1 e.2).1 he
      have hl := (isLive_iff _ _).2 ⟨_, h1⟩
      exact ⟨keyOf_mem s hk _ _ hl hla h2, keyOf_mem s hk _ _ hl hlb h3⟩)
  exact Option.isSome_iff_exists.2 ⟨_, (arithStep_eq_some_iff ..).2
    ⟨a, b, d, c, dm1, he, hc, ⟨isLive_lt hla, isLive_lt hlb⟩, hr, rfl⟩⟩

theorem combosLast_append_some {α : Type} (l : List (Option α)) (m : α) :
    combosLast (l ++ [some m]) = rowPairs m (l ++ [some m]) := by
  simp [combosLast]

/-- no condition for the inner loop: on the callback's answers it never fails (`unionRow_rowPairs`) -/
theorem unionStep_eq_some_iff (lt : F → F → Bool) (dist : List Nat → List Nat → F) (s s' : State F) :
    unionStep lt dist s = some s' ↔
      ∃ a b d c m, closest lt s.dm = some ((a, b), d) ∧ mkCluster s.n s.clusters a b d = some c ∧
        (a < s.sets.length ∧ b < s.sets.length ∧ a ≠ b) ∧ mergeSets s.sets a b = some m ∧
        s' = { s with
          sets := takeTwo s.sets a b ++ [some m]
          dm := zipInsert (dmRetain a b s.dm)
            ((live (takeTwo s.sets a b) 0).map fun e => (e.1, s.sets.length))
            ((live (takeTwo s.sets a b) 0).map (fun e => dist m e.2) ++ [dist m m])
          clusters := s.clusters ++ [c]
          log := s.log ++ [rowPairs m (takeTwo s.sets a b ++ [some m])] } := by
  constructor
  · intro h
    unfold unionStep at h
    split at h
    · cases h
    · rename_i e he
      split at h
      · cases h
      · rename_i c hc
        split at h
        · rename_i hlt
          split at h
          · cases h
          · rename_i m hm
            rw [combosLast_append_some, unionRow_rowPairs] at h
            exact ⟨e.1.1, e.1.2, e.2, c, m, he, hc, hlt, hm, (Option.some.inj h).symm⟩
        · cases h
  · rintro ⟨a, b, d, c, m, he, hc, hlt, hm, rfl⟩
    simp only [unionStep, he, hc, hlt, ne_eq, not_false_eq_true, and_self, if_true, hm,
      combosLast_append_some, unionRow_rowPairs]

theorem mergeSets_eq_some_iff (sets : List (Option (List Nat))) (a b : Nat) (m : List Nat) :
    mergeSets sets a b = some m ↔
      ∃ x y, (sets[a]?).join = some x ∧ (sets[b]?).join = some y ∧ m = Group.insertAll x y := by
  unfold mergeSets
  split
  · rename_i x y hx hy
    simp [hx, hy, eq_comm]
  · rename_i hn
    simp only [reduceCtorEq, false_iff, not_exists, not_and]
    intro x y hx hy
    exact absurd hy (hn x _ hx)

theorem isLive_join {sets : List (Option (List Nat))} {a : Nat} (h : isLive sets a = true) :
    ∃ x, (sets[a]?).join = some x := by
  obtain ⟨x, hx⟩ := (isLive_iff _ _).1 h
  exact ⟨x, by rw [hx]; rfl⟩

theorem Step.of_union {lt : F → F → Bool} {dist : List Nat → List Nat → F} {s s' : State F}
    (hk : KeysOK s) (h : unionStep lt dist s = some s') : ∃ c, Step lt s s' c := by
  obtain ⟨a, b, d, c, m, he, hc, hlt, hm, rfl⟩ := (unionStep_eq_some_iff ..).1 h
  obtain ⟨rfl, rfl, rfl, _⟩ := mkCluster_fields hc
  refine ⟨c, he, hc, rfl, rfl, ⟨m, rfl⟩, ⟨_, rfl⟩, fun q => ?_,
    nodup_keys_zipInsert _ _ _ (nodup_keys_dmRetain _ _ _ hk.1)⟩
  simp only
  rw [mem_keys_zipInsert _ _ _ (by simp), mem_keys_dmRetain, mem_keys_live_takeTwo]

theorem unionStep_isSome (lt : F → F → Bool) (dist : List Nat → List Nat → F) (s : State F)
    (hk : KeysOK s) (hl : s.sets.length = s.n + s.clusters.length) (hne : s.dm ≠ []) :
    (unionStep lt dist s).isSome := by
  obtain ⟨a, b, d, c, he, hc, hab, hla, hlb⟩ := exists_closest lt s hk hl hne
  obtain ⟨x, hx⟩ := isLive_join hla
  obtain ⟨y, hy⟩ := isLive_join hlb
  exact Option.isSome_iff_exists.2 ⟨_, (unionStep_eq_some_iff ..).2
    ⟨a, b, d, c, _, he, hc, ⟨isLive_lt hla, isLive_lt hlb, Nat.ne_of_lt hab⟩,
      (mergeSets_eq_some_iff ..).2 ⟨x, y, hx, hy, rfl⟩, rfl⟩⟩

theorem arithStep_update (lt : F → F → Bool) (comb : F → F → F) (s s' : State F)
    (h : arithStep lt comb s = some s') :
    ∃ a b d, closest lt s.dm = some ((a, b), d) ∧
      (∀ i, isLive s.sets i = true → i ≠ a → i ≠ b →
        ∃ v1 v2, dmGet s.dm (keyOf i a) = some v1 ∧ dmGet s.dm (keyOf i b) = some v2 ∧
          dmGet s'.dm (i, s.sets.length) = some (comb v1 v2)) ∧
      (∀ q : Nat × Nat, q.1 ≠ a → q.1 ≠ b → q.2 ≠ a → q.2 ≠ b → q.2 ≠ s.sets.length →
        dmGet s'.dm q = dmGet s.dm q) := by
  obtain ⟨a, b, d, c, dm1, he, hc, hlt, hr, rfl⟩ := (arithStep_eq_some_iff ..).1 h
  obtain ⟨es, h1, h2, rfl⟩ := arithRow_eq_some comb a b _ hlt.1 hlt.2 _ 0 _ _
    (live_takeTwo_ne _ _ _) hr
  refine ⟨a, b, d, he, fun i hi hia hib => ?_, fun q h1 h2 h3 h4 h5 => ?_⟩
  · obtain ⟨x, hx⟩ := (isLive_iff _ _).1 hi
    have : (i, s.sets.length) ∈ es.map fun e => (e.1, s.sets.length) := by
      rw [h1]
      exact List.mem_map.2 ⟨(i, x), (mem_live_takeTwo ..).2 ⟨hx, hia, hib⟩, rfl⟩
    obtain ⟨e, he, hei⟩ := List.mem_map.1 this
    cases hei
    refine ⟨e.2.1, e.2.2, (h2 e he).1, (h2 e he).2, ?_⟩
    simp only
    rw [dmGet_dmRetain, if_pos ⟨hia, hib, Nat.ne_of_gt hlt.1, Nat.ne_of_gt hlt.2⟩]
    exact dmGet_zipInsert_map s.dm es (fun e => (e.1, s.sets.length)) _ _ List.prefix_rfl
      (h1 ▸ nodup_live_keys _ _ _) e he
  · simp only
    rw [dmGet_dmRetain, if_pos ⟨h1, h2, h3, h4⟩, dmGet_zipInsert_of_not_mem]
    intro hq
    obtain ⟨e, _, rfl⟩ := List.mem_map.1 hq
    exact h5 rfl

/-! ### the invariant -/

def liveSet (sets : List (Option (List Nat))) : Finset Nat :=
  (Finset.range sets.length).filter (fun i => isLive sets i = true)

theorem mem_liveSet (sets : List (Option (List Nat))) (i : Nat) :
    i ∈ liveSet sets ↔ isLive sets i = true := by
  simp only [liveSet, Finset.mem_filter, Finset.mem_range]
  exact ⟨fun h => h.2, fun h => ⟨isLive_lt h, h⟩⟩

theorem lt_of_mem_erase_liveSet {sets : List (Option (List Nat))} {a b i : Nat}
    (h : i ∈ ((liveSet sets).erase a).erase b) : i < sets.length :=
  isLive_lt ((mem_liveSet _ _).1 (Finset.mem_erase.1 (Finset.mem_erase.1 h).2).2)

/-- merged indices in merge order: `lhs₀, rhs₀, lhs₁, rhs₁, …` -/
def mergedIdx : List (Cluster F) → List Nat
  | [] => []
  | c :: cs => c.lhs :: c.rhs :: mergedIdx cs

theorem mergedIdx_append (l : List (Cluster F)) (c : Cluster F) :
    mergedIdx (l ++ [c]) = mergedIdx l ++ [c.lhs, c.rhs] := by
  induction l with
  | nil => rfl
  | cons x r ih => simp only [List.cons_append, mergedIdx, ih]

theorem mergedIdx_eq_flatMap (cl : List (Cluster F)) :
    mergedIdx cl = cl.flatMap fun c => [c.lhs, c.rhs] := by
  induction cl with
  | nil => rfl
  | cons c cs ih => rw [mergedIdx, ih]; rfl

theorem mem_mergedIdx (cl : List (Cluster F)) (i : Nat) :
    i ∈ mergedIdx cl ↔ ∃ k, ∃ hk : k < cl.length, cl[k].lhs = i ∨ cl[k].rhs = i := by
  simp only [mergedIdx_eq_flatMap, List.mem_flatMap, List.mem_iff_getElem (l := cl), List.mem_cons,
    List.not_mem_nil, or_false]
  constructor
  · rintro ⟨c, ⟨k, hk, rfl⟩, h⟩
    exact ⟨k, hk, h.imp Eq.symm Eq.symm⟩
  · rintro ⟨k, hk, h⟩
    exact ⟨_, ⟨k, hk, rfl⟩, h.imp Eq.symm Eq.symm⟩

theorem mergedIdx_unique (cl : List (Cluster F)) (hnd : (mergedIdx cl).Nodup) (i k1 k2 : Nat)
    (h1 : k1 < cl.length) (h2 : k2 < cl.length) (e1 : cl[k1].lhs = i ∨ cl[k1].rhs = i)
    (e2 : cl[k2].lhs = i ∨ cl[k2].rhs = i) : k1 = k2 := by
  rw [mergedIdx_eq_flatMap, List.nodup_flatMap] at hnd
  have hp := List.pairwise_iff_getElem.1 hnd.2
  have hm : ∀ k (h : k < cl.length), cl[k].lhs = i ∨ cl[k].rhs = i → i ∈ [cl[k].lhs, cl[k].rhs] :=
    fun k h e => by simpa [eq_comm] using e
  rcases Nat.lt_trichotomy k1 k2 with h | h | h
  · exact absurd (hm k2 h2 e2) (List.disjoint_left.1 (hp k1 k2 h1 h2 h) (hm k1 h1 e1))
  · exact h
  · exact absurd (hm k1 h1 e1) (List.disjoint_left.1 (hp k2 k1 h2 h1 h) (hm k2 h2 e2))

/-- The invariant of the loop.  `sets` holds the `n` inputs followed by one entry per merge (`len`);
an entry is live until it is merged.  What each group of fields is for:
* `keys`: the matrix holds exactly the pairs of live entries, so every lookup of a step succeeds
  (`stepOf_isSome`) and an empty matrix leaves at most one live entry (`final_unique`);
* `card`, `nonempty`: a merge takes one live entry away, hence `n − 1` merges (`final_count`);
* `merged_nodup`, `merged_iff`: the indices merged so far are the dead entries, each once, hence
  each index below the root is merged exactly once and the leaf order is a permutation;
* `addr`: merge `k` joins two earlier entries (`C17_addressable`);
* `sizes`: cluster `k` is what `mkCluster` returned when only the first `k` clusters existed, i.e.
  its size is the sum of the sizes its two sides had THEN (`C17_sizes`, read in the final list by
  `sz_take`);
* `lastlive`, `sumsize`: the newest entry is live and the sizes of the live entries add up to `n`,
  hence the last merge has size `n`. -/
structure Inv (s : State F) : Prop where
  len : s.sets.length = s.n + s.clusters.length
  keys : KeysOK s
  merged_nodup : (mergedIdx s.clusters).Nodup
  merged_iff : ∀ i, i ∈ mergedIdx s.clusters ↔ (i < s.sets.length ∧ isLive s.sets i = false)
  card : (liveSet s.sets).card + s.clusters.length = s.n
  nonempty : 0 < s.n → (liveSet s.sets).Nonempty
  lastlive : 0 < s.clusters.length → isLive s.sets (s.sets.length - 1) = true
  addr : ∀ k (h : k < s.clusters.length),
    s.clusters[k].lhs < s.clusters[k].rhs ∧ s.clusters[k].rhs < s.n + k
  sizes : ∀ k (h : k < s.clusters.length),
    mkCluster s.n (s.clusters.take k) s.clusters[k].lhs s.clusters[k].rhs s.clusters[k].dist
      = some s.clusters[k]
  sumsize : ∑ i ∈ liveSet s.sets, sz s.n s.clusters i = s.n

section Step
variable {lt : F → F → Bool} {s s' : State F} {c : Cluster F}

theorem Step.length (hs : Step lt s s' c) : s'.sets.length = s.sets.length + 1 := by
  obtain ⟨m, hm⟩ := hs.sets
  rw [hm, List.length_append, length_takeTwo]; rfl

theorem Step.live (hs : Step lt s s' c) (i : Nat) :
    isLive s'.sets i = true ↔
      (isLive s.sets i = true ∧ i ≠ c.lhs ∧ i ≠ c.rhs) ∨ i = s.sets.length := by
  obtain ⟨m, hm⟩ := hs.sets
  rw [hm, isLive_merge]

theorem Step.liveSet_eq (hs : Step lt s s' c) :
    liveSet s'.sets = insert s.sets.length (((liveSet s.sets).erase c.lhs).erase c.rhs) := by
  ext i
  simp only [mem_liveSet, hs.live, Finset.mem_insert, Finset.mem_erase]
  constructor
  · rintro (⟨h1, h2, h3⟩ | h)
    · exact Or.inr ⟨h3, h2, h1⟩
    · exact Or.inl h
  · rintro (h | ⟨h3, h2, h1⟩)
    · exact Or.inr h
    · exact Or.inl ⟨h1, h2, h3⟩

/-- a quantity that is additive over merges (`f' new = f lhs + f rhs`, unchanged elsewhere) has the
same sum over the live entries before and after: the sizes, the leaf sets -/
theorem Step.sum_liveSet {M : Type} [AddCommMonoid M] (hk : KeysOK s) (hs : Step lt s s' c)
    (f f' : Nat → M) (hold : ∀ i, i < s.sets.length → f' i = f i)
    (hnew : f' s.sets.length = f c.lhs + f c.rhs) :
    ∑ i ∈ liveSet s'.sets, f' i = ∑ i ∈ liveSet s.sets, f i := by
  obtain ⟨hab, hla, hlb⟩ := closest_live hk hs.closest
  rw [hs.liveSet_eq, Finset.sum_insert fun h => Nat.lt_irrefl _ (lt_of_mem_erase_liveSet h), hnew,
    Finset.sum_congr rfl fun i hi => hold i (lt_of_mem_erase_liveSet hi),
    ← Finset.add_sum_erase _ f ((mem_liveSet _ _).2 hla),
    ← Finset.add_sum_erase _ f (Finset.mem_erase.2 ⟨Nat.ne_of_gt hab, (mem_liveSet _ _).2 hlb⟩),
    add_assoc]

theorem Step.card_liveSet (hk : KeysOK s) (hs : Step lt s s' c) :
    (liveSet s'.sets).card + 1 = (liveSet s.sets).card := by
  obtain ⟨hab, hla, hlb⟩ := closest_live hk hs.closest
  rw [hs.liveSet_eq, Finset.card_insert_of_notMem fun h => Nat.lt_irrefl _ (lt_of_mem_erase_liveSet h),
    Finset.card_erase_add_one (Finset.mem_erase.2 ⟨Nat.ne_of_gt hab, (mem_liveSet _ _).2 hlb⟩),
    Finset.card_erase_add_one ((mem_liveSet _ _).2 hla)]

theorem Step.keysOK (hk : KeysOK s) (hs : Step lt s s' c) : KeysOK s' := by
  refine ⟨hs.nodup, fun q => ?_⟩
  rw [hs.keys q, hk.2 q, hs.live q.1, hs.live q.2]
  constructor
  · rintro (⟨⟨h1, h2, h3⟩, h4, h5, h6, h7⟩ | ⟨i, hil, hia, hib, rfl⟩)
    · exact ⟨h1, Or.inl ⟨h2, h4, h5⟩, Or.inl ⟨h3, h6, h7⟩⟩
    · exact ⟨isLive_lt hil, Or.inl ⟨hil, hia, hib⟩, Or.inr rfl⟩
  · rintro ⟨h1, h2 | h2, h3 | h3⟩
    · exact Or.inl ⟨⟨h1, h2.1, h3.1⟩, h2.2.1, h2.2.2, h3.2.1, h3.2.2⟩
    · exact Or.inr ⟨q.1, h2.1, h2.2.1, h2.2.2, by rw [← h3]⟩
    · exact absurd (isLive_lt h3.1) (Nat.lt_asymm (h2 ▸ h1))
    · exact absurd h1 (h2 ▸ h3 ▸ Nat.lt_irrefl _)

theorem Inv.step (hi : Inv s) (hs : Step lt s s' c) : Inv s' := by
  obtain ⟨hab, hla, hlb⟩ := closest_live hi.keys hs.closest
  have ha := isLive_lt hla
  have hb := isLive_lt hlb
  have hlen := hs.length
  have hlen' : s'.clusters.length = s.clusters.length + 1 := by
    rw [hs.clusters, List.length_append]; rfl
  have hnew : isLive s'.sets s.sets.length = true := (hs.live _).2 (Or.inr rfl)
  exact
    { len := by rw [hlen, hs.n, hlen', hi.len, Nat.add_assoc]
      keys := hs.keysOK hi.keys
      merged_nodup := by
        -- `lhs` and `rhs` were live, so they have not been merged before
        rw [hs.clusters, mergedIdx_append]
        refine List.Nodup.append hi.merged_nodup (by simpa using Nat.ne_of_lt hab)
          fun x hx1 hx2 => ?_
        have := ((hi.merged_iff x).1 hx1).2
        simp only [List.mem_cons, List.not_mem_nil, or_false] at hx2
        rcases hx2 with rfl | rfl
        · rw [hla] at this; cases this
        · rw [hlb] at this; cases this
      merged_iff := fun i => by
        rw [hs.clusters, mergedIdx_append, List.mem_append, hi.merged_iff i, hlen,
          ← Bool.not_eq_true (isLive s'.sets i), hs.live i, ← Bool.not_eq_true]
        simp only [List.mem_cons, List.not_mem_nil, or_false]
        constructor
        · rintro (⟨h1, h2⟩ | rfl | rfl)
          · exact ⟨Nat.lt_succ_of_lt h1, fun h => h.elim (fun h => h2 h.1) (Nat.ne_of_lt h1)⟩
          · exact ⟨Nat.lt_succ_of_lt ha, fun h => h.elim (fun h => h.2.1 rfl) (Nat.ne_of_lt ha)⟩
          · exact ⟨Nat.lt_succ_of_lt hb, fun h => h.elim (fun h => h.2.2 rfl) (Nat.ne_of_lt hb)⟩
        · rintro ⟨h1, h2⟩
          by_cases hia : i = c.lhs
          · exact Or.inr (Or.inl hia)
          · by_cases hib : i = c.rhs
            · exact Or.inr (Or.inr hib)
            · exact Or.inl ⟨Nat.lt_of_le_of_ne (Nat.le_of_lt_succ h1) fun h => h2 (Or.inr h),
                fun h => h2 (Or.inl ⟨h, hia, hib⟩)⟩
      card := by
        rw [hlen', hs.n, ← hi.card, ← hs.card_liveSet hi.keys, Nat.add_assoc, Nat.add_comm 1]
      nonempty := fun _ => ⟨_, (mem_liveSet _ _).2 hnew⟩
      lastlive := fun _ => by rw [hlen]; exact hnew
      addr := fun k hk => by
        rw [hlen'] at hk
        simp only [hs.clusters, hs.n]
        rcases Nat.lt_or_eq_of_le (Nat.le_of_lt_succ hk) with hk' | rfl
        · rw [List.getElem_append_left hk']
          exact hi.addr k hk'
        · rw [List.getElem_concat_length rfl]
          exact ⟨hab, by rw [← hi.len]; exact hb⟩
      sizes := fun k hk => by
        rw [hlen'] at hk
        simp only [hs.clusters, hs.n]
        rcases Nat.lt_or_eq_of_le (Nat.le_of_lt_succ hk) with hk' | rfl
        · rw [List.getElem_append_left hk', List.take_append_of_le_length (Nat.le_of_lt hk')]
          exact hi.sizes k hk'
        · rw [List.getElem_concat_length rfl, List.take_left' rfl]
          exact hs.made
      sumsize := by
        rw [hs.sum_liveSet hi.keys (sz s.n s.clusters) (sz s'.n s'.clusters), hs.n, hi.sumsize]
        · intro i hil
          rw [hs.n, hs.clusters, sz_append _ _ _ _ (hi.len ▸ hil)]
        · rw [hs.n, hs.clusters, hi.len,
            sz_cluster _ _ _ (by rw [List.length_append]; exact Nat.lt_succ_self _),
            List.getElem_concat_length rfl, (mkCluster_fields hs.made).2.2.2] }

end Step

/-! ### the initial state -/

/-- all ordered pairs of a list in lexicographic order of positions -/
def pairsLex {α : Type} : List α → List (α × α)
  | [] => []
  | x :: r => r.map (fun y => (x, y)) ++ pairsLex r

theorem rowPairs_map_some {α : Type} (x : α) (r : List α) :
    rowPairs x (r.map some) = r.map (fun y => (x, y)) := by
  induction r with
  | nil => simp [rowPairs]
  | cons y r ih => simp [rowPairs, ih]

theorem combos_map_some {α : Type} (l : List α) : combos (l.map some) = pairsLex l := by
  induction l with
  | nil => simp [combos, pairsLex]
  | cons x r ih => simp [combos, pairsLex, ih, rowPairs_map_some]

theorem pairsLex_map {α β : Type} (f : α → β) (l : List α) :
    pairsLex (l.map f) = (pairsLex l).map (fun p => (f p.1, f p.2)) := by
  induction l with
  | nil => simp [pairsLex]
  | cons x r ih => simp [pairsLex, ih, Function.comp_def]

theorem length_pairsLex_map {α β : Type} (f : α → β) (l : List α) :
    (pairsLex (l.map f)).length = (pairsLex l).length := by
  rw [pairsLex_map, List.length_map]

theorem mem_pairsLex_range' (s k : Nat) (q : Nat × Nat) :
    q ∈ pairsLex (List.range' s k) ↔ s ≤ q.1 ∧ q.1 < q.2 ∧ q.2 < s + k := by
  induction k generalizing s with
  | zero => exact ⟨fun h => (nomatch h), fun h => by omega⟩
  | succ k ih =>
    rw [List.range'_succ, pairsLex, List.mem_append, ih (s + 1)]
    simp only [List.mem_map, List.mem_range'_1, Nat.add_right_comm s 1 k]
    constructor
    · rintro (⟨y, hy, rfl⟩ | h)
      · exact ⟨Nat.le_refl s, hy⟩
      · exact ⟨Nat.le_of_succ_le h.1, h.2⟩
    · rintro ⟨h1, h2⟩
      rcases Nat.eq_or_lt_of_le h1 with rfl | h1
      · exact Or.inl ⟨q.2, h2, rfl⟩
      · exact Or.inr ⟨h1, h2⟩

theorem nodup_pairsLex_range' (s k : Nat) : (pairsLex (List.range' s k)).Nodup := by
  induction k generalizing s with
  | zero => simp [pairsLex]
  | succ k ih =>
    rw [List.range'_succ, pairsLex]
    apply List.Nodup.append
    · apply List.Nodup.map _ List.nodup_range'
      intro x y h; simpa using h
    · exact ih (s + 1)
    · intro q h1 h2
      obtain ⟨y, _, rfl⟩ := List.mem_map.1 h1
      exact Nat.not_succ_le_self s ((mem_pairsLex_range' (s + 1) k _).1 h2).1

theorem indexPairs_eq (n : Nat) : indexPairs n = pairsLex (List.range n) := by
  rw [indexPairs, combos_map_some]

theorem map_range_getD (l : List (List Nat)) :
    (List.range l.length).map (fun i => l[i]?.getD []) = l := by
  apply List.ext_getElem (by simp)
  intro i h1 h2
  simp [h2]

theorem pairsLex_eq_map_indexPairs (l : List (List Nat)) :
    pairsLex l = (indexPairs l.length).map fun q => (l[q.1]?.getD [], l[q.2]?.getD []) := by
  rw [indexPairs_eq, ← pairsLex_map (fun i => l[i]?.getD []), map_range_getD]

theorem mem_indexPairs (n : Nat) (q : Nat × Nat) : q ∈ indexPairs n ↔ q.1 < q.2 ∧ q.2 < n := by
  rw [indexPairs_eq, List.range_eq_range', mem_pairsLex_range', Nat.zero_add]
  exact and_iff_right (Nat.zero_le _)

theorem nodup_indexPairs (n : Nat) : (indexPairs n).Nodup := by
  rw [indexPairs_eq, List.range_eq_range']; exact nodup_pairsLex_range' 0 n

theorem isLive_map_some (l : List (List Nat)) (i : Nat) :
    isLive (l.map some) i = true ↔ i < l.length := by
  rw [isLive_iff]
  by_cases h : i < l.length <;> simp [h]

theorem liveSet_init (d : List Nat → List Nat → F) (members : List (List Nat)) :
    liveSet (init d members).sets = Finset.range members.length := by
  ext i
  rw [mem_liveSet, Finset.mem_range]
  exact isLive_map_some members i

theorem inv_init (d : List Nat → List Nat → F) (members : List (List Nat)) : Inv (init d members) := by
  have hlive : ∀ i, isLive (init d members).sets i = true ↔ i < members.length :=
    isLive_map_some members
  have hLS := liveSet_init d members
  have hlen : (indexPairs members.length).length
      ≤ ((combos (members.map some)).map fun p => d p.1 p.2).length := by
    rw [List.length_map, combos_map_some, pairsLex_eq_map_indexPairs, List.length_map]
  exact
    { len := List.length_map _
      keys := ⟨nodup_keys_zipInsert _ _ _ List.nodup_nil, fun q => by
        rw [hlive, hlive]
        simp only [init]
        rw [mem_keys_zipInsert _ _ _ hlen, mem_indexPairs]
        simp only [keysOf, List.map_nil, List.not_mem_nil, false_or]
        exact ⟨fun h => ⟨h.1, Nat.lt_trans h.1 h.2, h.2⟩, fun h => ⟨h.1, h.2.2⟩⟩⟩
      merged_nodup := List.nodup_nil
      merged_iff := fun i => by
        rw [← Bool.not_eq_true, hlive]
        simp [init, mergedIdx]
      card := by rw [hLS, Finset.card_range]; rfl
      nonempty := fun h => by rw [hLS]; exact ⟨0, Finset.mem_range.2 h⟩
      lastlive := fun h => absurd h (Nat.lt_irrefl 0)
      addr := fun k h => absurd h (Nat.not_lt_zero k)
      sizes := fun k h => absurd h (Nat.not_lt_zero k)
      sumsize := by
        rw [hLS]
        exact (Finset.sum_congr rfl fun i hi => sz_input _ _ i (Finset.mem_range.1 hi)).trans
          (by simp [init]) }

/-! ### the loop -/

/-- the states in which the loop found a non-empty matrix, i.e. `trace[k]` is the state right
before the `k`-th merge -/
def trace (step : State F → Option (State F)) : Nat → State F → List (State F)
  | 0, _ => []
  | fuel + 1, s =>
    if s.dm.isEmpty then []
    else
      match step s with
      | none => []
      | some s' => s :: trace step fuel s'

section Loop
variable {step : State F → Option (State F)} {s s' sf : State F}

theorem run_of_nil (fuel : Nat) (h : s.dm = []) : run step (fuel + 1) s = some s := by
  simp [run, h]

theorem trace_of_nil (fuel : Nat) (h : s.dm = []) : trace step fuel s = [] := by
  cases fuel <;> simp [trace, h]

theorem run_of_step (fuel : Nat) (h : s.dm ≠ []) (hs : step s = some s') :
    run step (fuel + 1) s = run step fuel s' := by
  simp [run, h, hs]

theorem trace_of_step (fuel : Nat) (h : s.dm ≠ []) (hs : step s = some s') :
    trace step (fuel + 1) s = s :: trace step fuel s' := by
  simp [trace, h, hs]

theorem step_of_run {fuel : Nat} (hrun : run step fuel s = some sf) (h : s.dm ≠ []) :
    ∃ s' fuel', step s = some s' ∧ fuel = fuel' + 1 ∧ run step fuel' s' = some sf := by
  cases fuel with
  | zero => cases hrun
  | succ fuel =>
    cases hs : step s with
    | none => simp [run, h, hs] at hrun
    | some s' => exact ⟨s', fuel, rfl, rfl, by rwa [run_of_step fuel h hs] at hrun⟩

theorem run_invariant {P : Nat → State F → Prop}
    (hP : ∀ k s s', P k s → s.dm ≠ [] → step s = some s' → P (k + 1) s')
    (fuel k₀ : Nat) (s : State F) (h0 : P k₀ s) :
    (∀ k sk, (trace step fuel s)[k]? = some sk → P (k₀ + k) sk) ∧
    (∀ sf, run step fuel s = some sf → P (k₀ + (trace step fuel s).length) sf ∧ sf.dm = []) := by
  induction fuel generalizing k₀ s with
  | zero => exact ⟨fun k sk hk => (nomatch hk), fun sf h => (nomatch h)⟩
  | succ fuel ih =>
    by_cases he : s.dm = []
    · rw [trace_of_nil _ he, run_of_nil _ he]
      exact ⟨fun k sk hk => (nomatch hk), fun sf h => by cases h; exact ⟨h0, he⟩⟩
    · cases hs : step s with
      | none => simp [trace, run, he, hs]
      | some s' =>
        obtain ⟨ih1, ih2⟩ := ih (k₀ + 1) s' (hP k₀ s s' h0 he hs)
        rw [trace_of_step _ he hs, run_of_step _ he hs, List.length_cons]
        refine ⟨fun k sk hk => ?_, fun sf h => by rw [← Nat.add_assoc, Nat.add_right_comm]; exact ih2 sf h⟩
        cases k with
        | zero => cases hk; exact h0
        | succ k =>
          rw [← Nat.add_assoc, Nat.add_right_comm]
          exact ih1 k sk hk

theorem run_of_trace {fuel k : Nat} {sk : State F} (hrun : run step fuel s = some sf)
    (hk : (trace step fuel s)[k]? = some sk) :
    sk.dm ≠ [] ∧ ∃ fuel', run step fuel' sk = some sf := by
  induction fuel generalizing s k with
  | zero => cases hk
  | succ fuel ih =>
    by_cases he : s.dm = []
    · rw [trace_of_nil _ he] at hk; cases hk
    · obtain ⟨s', _, hs, h, hrun'⟩ := step_of_run hrun he
      cases h
      rw [trace_of_step _ he hs] at hk
      cases k with
      | zero => cases hk; exact ⟨he, _, hrun⟩
      | succ k => exact ih hrun' hk

end Loop

section Cluster
variable (m : Method) (lt : F → F → Bool) (mean : F → F → F) (d : List Nat → List Nat → F)

theorem stepOf_isSome (s : State F) (hi : Inv s) (hne : s.dm ≠ []) :
    (stepOf m lt mean d s).isSome := by
  cases m
  · exact unionStep_isSome lt d s hi.keys hi.len hne
  all_goals exact arithStep_isSome lt _ s hi.keys hi.len hne

variable {m lt mean d}

theorem Step.of_stepOf {s s' : State F} (hk : KeysOK s) (h : stepOf m lt mean d s = some s') :
    ∃ c, Step lt s s' c := by
  cases m
  · exact Step.of_union hk h
  all_goals exact Step.of_arith hk h

/-- the fuel suffices: every iteration takes one live entry away -/
theorem run_isSome (fuel : Nat) (s : State F) (hi : Inv s) (hf : (liveSet s.sets).card < fuel) :
    (run (stepOf m lt mean d) fuel s).isSome := by
  induction fuel generalizing s with
  | zero => cases hf
  | succ fuel ih =>
    by_cases he : s.dm = []
    · rw [run_of_nil _ he]; rfl
    · obtain ⟨s', hs⟩ := Option.isSome_iff_exists.1 (stepOf_isSome m lt mean d s hi he)
      obtain ⟨c, hst⟩ := Step.of_stepOf hi.keys hs
      rw [run_of_step _ he hs]
      have hf' : (liveSet s'.sets).card + 1 < fuel + 1 := by rwa [hst.card_liveSet hi.keys]
      exact ih s' (hi.step hst) (Nat.lt_of_add_lt_add_right hf')

variable (m lt mean d) in
/-- The entry point for every further invariant of the loop of `cluster`: to carry `Q`, prove
`Inv s → Q s → Step lt s s' c → Q s'` and `Q` of the initial state, and take `P := fun _ => Q`
(`P` may also depend on the number `k` of merges so far).  `Inv` is carried along by `Inv.step`. -/
theorem cluster_invariant {P : Nat → State F → Prop}
    (hP : ∀ k s s' c, Inv s → P k s → Step lt s s' c → stepOf m lt mean d s = some s' →
      P (k + 1) s')
    (fuel : Nat) (s : State F) (hi : Inv s) (h0 : P 0 s) :
    (∀ k sk, (trace (stepOf m lt mean d) fuel s)[k]? = some sk → Inv sk ∧ P k sk) ∧
    (∀ sf, run (stepOf m lt mean d) fuel s = some sf →
      (Inv sf ∧ P (trace (stepOf m lt mean d) fuel s).length sf) ∧ sf.dm = []) := by
  have := run_invariant (step := stepOf m lt mean d) (P := fun k x => Inv x ∧ P k x)
    (fun k x x' hx _ hs => by
      obtain ⟨c, hst⟩ := Step.of_stepOf hx.1.keys hs
      exact ⟨hx.1.step hst, hP k x x' c hx.1 hx.2 hst hs⟩) fuel 0 s ⟨hi, h0⟩
  simpa only [Nat.zero_add] using this

theorem clusters_prefix {fuel : Nat} {s sf : State F} (hi : Inv s)
    (hrun : run (stepOf m lt mean d) fuel s = some sf) : s.clusters <+: sf.clusters :=
  ((cluster_invariant m lt mean d (P := fun _ x => s.clusters <+: x.clusters)
    (fun _ _ _ _ _ hx hst _ => hx.trans (hst.clusters ▸ List.prefix_append _ _))
    fuel s hi List.prefix_rfl).2 sf hrun).1.2

variable (m lt mean d)

theorem cluster_isSome (members : List (List Nat)) : (cluster m lt mean d members).isSome :=
  run_isSome _ _ (inv_init d members) (by
    rw [liveSet_init, Finset.card_range]
    exact Nat.lt_succ_self _)

theorem cluster_run (members : List (List Nat)) :
    (∀ k sk, (trace (stepOf m lt mean d) (members.length + 1) (init d members))[k]? = some sk →
      Inv sk ∧ sk.n = members.length ∧ sk.clusters.length = k) ∧
    (∀ sf, cluster m lt mean d members = some sf →
      Inv sf ∧ sf.dm = [] ∧ sf.n = members.length ∧
      (trace (stepOf m lt mean d) (members.length + 1) (init d members)).length = sf.clusters.length ∧
      sf.log.head? = some (pairsLex members)) := by
  obtain ⟨h1, h2⟩ := cluster_invariant m lt mean d
    (P := fun k x => x.n = members.length ∧ x.clusters.length = k ∧
      x.log.head? = some (pairsLex members))
    (fun k x x' c _ hx hst _ => by
      obtain ⟨l, hl⟩ := hst.log
      refine ⟨hst.n.trans hx.1, by rw [hst.clusters, List.length_append, hx.2.1]; rfl, ?_⟩
      rw [hl, List.head?_append, hx.2.2]; rfl)
    (members.length + 1) (init d members) (inv_init d members)
    ⟨rfl, rfl, by simp [init, combos_map_some]⟩
  refine ⟨fun k sk hk => ?_, fun sf h => ?_⟩
  · obtain ⟨hi, hn, hlen, _⟩ := h1 k sk hk
    exact ⟨hi, hn, hlen⟩
  · obtain ⟨⟨hi, hn, hlen, hlog⟩, he⟩ := h2 sf h
    exact ⟨hi, he, hn, hlen.symm, hlog⟩

variable {m lt mean d}

/-- ties the state before merge `k` to the FINAL dendrogram (`clusters_prefix` from that state on),
so that `C17_closest` and `closed_form` can speak of `sf.clusters[k]` -/
theorem cluster_trace {members : List (List Nat)} {sf : State F}
    (h : cluster m lt mean d members = some sf) {k : Nat} {sk : State F}
    (hk : (trace (stepOf m lt mean d) (members.length + 1) (init d members))[k]? = some sk) :
    sk.dm ≠ [] ∧ sk.clusters = sf.clusters.take k ∧
    ∃ c, sf.clusters[k]? = some c ∧ closest lt sk.dm = some ((c.lhs, c.rhs), c.dist) := by
  obtain ⟨hik, _, hlen⟩ := (cluster_run m lt mean d members).1 k sk hk
  obtain ⟨hne, fuel', hrun⟩ := run_of_trace h hk
  obtain ⟨s', _, hs, _, hrun'⟩ := step_of_run hrun hne
  obtain ⟨c, hst⟩ := Step.of_stepOf hik.keys hs
  obtain ⟨l, hl⟩ := clusters_prefix (hik.step hst) hrun'
  rw [hst.clusters, List.append_assoc] at hl
  refine ⟨hne, by rw [← hl, List.take_left' hlen], c, ?_, hst.closest⟩
  rw [← hl, List.getElem?_append_right (Nat.le_of_eq hlen), hlen, Nat.sub_self]; rfl

end Cluster

/-! ### consequences for a final state -/

theorem final_unique {s : State F} (hi : Inv s) (he : s.dm = []) {i j : Nat}
    (h1 : isLive s.sets i = true) (h2 : isLive s.sets j = true) : i = j := by
  have key : ∀ q : Nat × Nat, ¬ (q.1 < q.2 ∧ isLive s.sets q.1 = true ∧ isLive s.sets q.2 = true) :=
    fun q hq => by have := (hi.keys.2 q).2 hq; rw [he] at this; cases this
  rcases Nat.lt_trichotomy i j with h | h | h
  · exact absurd ⟨h, h1, h2⟩ (key (i, j))
  · exact h
  · exact absurd ⟨h, h2, h1⟩ (key (j, i))

theorem final_count (s : State F) (hi : Inv s) (he : s.dm = []) :
    s.clusters.length = s.n - 1 := by
  have h1 : (liveSet s.sets).card ≤ 1 := Finset.card_le_one.2 fun a ha b hb =>
    final_unique hi he ((mem_liveSet _ _).1 ha) ((mem_liveSet _ _).1 hb)
  have h2 := hi.card
  rcases Nat.eq_zero_or_pos s.n with hn | hn
  · rw [hn] at h2 ⊢
    exact (Nat.add_eq_zero_iff.1 h2).2
  · rw [← h2, Nat.le_antisymm h1 (Finset.card_pos.2 (hi.nonempty hn)), Nat.add_sub_cancel_left]

theorem final_liveSet (s : State F) (hi : Inv s) (he : s.dm = []) (hn : 2 ≤ s.n) :
    s.sets.length = 2 * s.n - 2 + 1 ∧ liveSet s.sets = {2 * s.n - 2} := by
  have hc := final_count s hi he
  have hlen : s.sets.length = 2 * s.n - 2 + 1 := by rw [hi.len, hc]; omega
  have hl := hi.lastlive (hc ▸ Nat.sub_pos_of_lt hn)
  rw [hlen, Nat.add_sub_cancel] at hl
  exact ⟨hlen, Finset.eq_singleton_iff_unique_mem.2 ⟨(mem_liveSet _ _).2 hl, fun _ h =>
    final_unique hi he ((mem_liveSet _ _).1 h) hl⟩⟩

theorem indicies_eq (n : Nat) (cl : List (Cluster F)) :
    indicies n cl = (mergedIdx cl).filter (fun i => decide (i < n)) := by
  induction cl with
  | nil => simp [indicies, mergedIdx]
  | cons c cs ih =>
    simp only [indicies, mergedIdx, ih, List.filter_cons]
    by_cases h1 : c.lhs < n <;> by_cases h2 : c.rhs < n <;> simp [h1, h2]

/-- what `C17_each_once`, `C17_leaf_order`, `C17_sizes` and `C17_dendrogram` read off `Inv` in the
final state of `cluster`, where the root `2n − 2` is the one live entry (`final_liveSet`) -/
theorem final_bookkeeping (m : Method) (lt : F → F → Bool) (mean : F → F → F)
    (d : List Nat → List Nat → F) (members : List (List Nat)) (s : State F)
    (h : cluster m lt mean d members = some s) (hn : 2 ≤ members.length) :
    (∀ i, i ∈ mergedIdx s.clusters ↔ i < 2 * members.length - 2) ∧ (mergedIdx s.clusters).Nodup ∧
    (s.clusters.getLast?).map (·.size) = some members.length := by
  obtain ⟨hi, he, h4, _⟩ := (cluster_run m lt mean d members).2 s h
  rw [← h4] at hn ⊢
  obtain ⟨hlen, hLS⟩ := final_liveSet s hi he hn
  refine ⟨fun i => ?_, hi.merged_nodup, ?_⟩
  · rw [hi.merged_iff i, ← Bool.not_eq_true, ← mem_liveSet, hLS, Finset.mem_singleton, hlen,
      Nat.lt_succ_iff_lt_or_eq]
    exact ⟨fun h => h.1.resolve_right h.2, fun h => ⟨Or.inl h, Nat.ne_of_lt h⟩⟩
  · -- the live entry `2n − 2` is the cluster of the last merge, `n − 2`
    have hc := final_count s hi he
    have hk : s.n - 2 < s.clusters.length := hc ▸ Nat.sub_lt_sub_left hn (Nat.lt_succ_self 1)
    have := hi.sumsize
    rw [hLS, Finset.sum_singleton, Nat.two_mul, Nat.add_sub_assoc hn, sz_cluster _ _ _ hk] at this
    rw [List.getLast?_eq_getElem?, hc, Nat.sub_sub, List.getElem?_eq_getElem hk, Option.map_some,
      this]

end Linkage
end Hpo
