import HpoProofs.Linkage
/-!
Helper lemmas for C17, second part: the leaf set of every index of the dendrogram (`leaves`), the
leaf sets of the live entries as a partition of the inputs, the initial distances as values
(`init_dmGet`) and the invariant `DistInv R` ("the stored distance of two live entries is in
relation `R` to their leaf sets") that yields the closed forms of single and complete linkage.
-/
namespace Hpo
namespace Linkage
variable {F : Type}

/-- leaf set of index `i` for the merges in REVERSE push order (newest first) -/
def leavesRev (n : Nat) : List (Cluster F) → Nat → List Nat
  | [], i => if i < n then [i] else []
  | c :: older, i =>
    if i = n + older.length then leavesRev n older c.lhs ++ leavesRev n older c.rhs
    else leavesRev n older i

/-- the inputs below index `i` of the dendrogram `cl` over `n` inputs: `[i]` for an input, the
leaves of `lhs` followed by the leaves of `rhs` for the cluster `i = n + k` created by merge `k` -/
def leaves (n : Nat) (cl : List (Cluster F)) (i : Nat) : List Nat := leavesRev n cl.reverse i

theorem leaves_nil (n i : Nat) : leaves n ([] : List (Cluster F)) i = if i < n then [i] else [] := by
  simp [leaves, leavesRev]

theorem leaves_snoc (n : Nat) (cl : List (Cluster F)) (c : Cluster F) (i : Nat) :
    leaves n (cl ++ [c]) i =
      if i = n + cl.length then leaves n cl c.lhs ++ leaves n cl c.rhs else leaves n cl i := by
  simp [leaves, leavesRev]

theorem leaves_input (n : Nat) (cl : List (Cluster F)) (i : Nat) (h : i < n) :
    leaves n cl i = [i] := by
  induction cl using List.reverseRecOn with
  | nil => rw [leaves_nil, if_pos h]
  | append_singleton cl c ih => rw [leaves_snoc, if_neg (Nat.ne_of_lt (Nat.lt_add_right _ h)), ih]

theorem leaves_append (n : Nat) (cl l2 : List (Cluster F)) (i : Nat) (h : i < n + cl.length) :
    leaves n (cl ++ l2) i = leaves n cl i := by
  induction l2 using List.reverseRecOn with
  | nil => rw [List.append_nil]
  | append_singleton l2 c ih =>
    rw [← List.append_assoc, leaves_snoc, if_neg (by rw [List.length_append]; omega), ih]

theorem leaves_take (n : Nat) (cl : List (Cluster F)) (k i : Nat) (h : i < n + k) :
    leaves n (cl.take k) i = leaves n cl i := by
  by_cases hk : k ≤ cl.length
  · conv_rhs => rw [← List.take_append_drop k cl]
    rw [leaves_append]
    rwa [List.length_take, Nat.min_eq_left hk]
  · rw [List.take_of_length_le (Nat.le_of_not_le hk)]

theorem leaves_cluster (n : Nat) (cl : List (Cluster F)) (k : Nat) (hk : k < cl.length)
    (hl : cl[k].lhs < n + k) (hr : cl[k].rhs < n + k) :
    leaves n cl (n + k) = leaves n cl cl[k].lhs ++ leaves n cl cl[k].rhs := by
  rw [← leaves_take n cl (k + 1) (n + k) (Nat.lt_succ_self _), List.take_succ_eq_append_getElem hk,
    leaves_snoc, if_pos (by rw [List.length_take, Nat.min_eq_left (Nat.le_of_lt hk)]),
    leaves_take n cl k _ hl, leaves_take n cl k _ hr]

section Step
variable {lt : F → F → Bool} {s s' : State F} {c : Cluster F}

theorem Step.leaves (hi : Inv s) (hs : Step lt s s' c) (i : Nat) :
    leaves s'.n s'.clusters i =
      if i = s.sets.length then leaves s.n s.clusters c.lhs ++ leaves s.n s.clusters c.rhs
      else leaves s.n s.clusters i := by
  rw [hs.n, hs.clusters, leaves_snoc, hi.len]

/-- the leaf sets of the live entries partition the inputs -/
def LeafInv (s : State F) : Prop :=
  ∑ i ∈ liveSet s.sets, (leaves s.n s.clusters i : Multiset Nat) = Multiset.range s.n

theorem LeafInv.step (hi : Inv s) (hl : LeafInv s) (hs : Step lt s s' c) : LeafInv s' := by
  unfold LeafInv
  rw [hs.sum_liveSet hi.keys (fun i => (leaves s.n s.clusters i : Multiset Nat)), hs.n]
  · exact hl
  · intro i hil
    rw [hs.leaves hi, if_neg (Nat.ne_of_lt hil)]
  · rw [hs.leaves hi, if_pos rfl, Multiset.coe_add]

end Step

theorem leafInv_init (d : List Nat → List Nat → F) (members : List (List Nat)) :
    LeafInv (init d members) := by
  unfold LeafInv
  rw [liveSet_init]
  exact (Finset.sum_congr rfl fun i hi =>
    congrArg _ (leaves_input _ _ i (Finset.mem_range.1 hi))).trans (Finset.sum_multiset_singleton _)

theorem init_dmGet (d : List Nat → List Nat → F) (members : List (List Nat)) (i j : Nat)
    (hij : i < j) (hj : j < members.length) :
    dmGet (init d members).dm (i, j) = some (d (members[i]?.getD []) (members[j]?.getD [])) := by
  have := dmGet_zipInsert_map ([] : DM F) (indexPairs members.length) id
    (fun q => d (members[q.1]?.getD []) (members[q.2]?.getD []))
    ((combos (members.map some)).map fun p => d p.1 p.2)
    (by rw [combos_map_some, pairsLex_eq_map_indexPairs, List.map_map]; exact List.prefix_rfl)
    (by rw [List.map_id]; exact nodup_indexPairs _) (i, j) ((mem_indexPairs _ _).2 ⟨hij, hj⟩)
  rwa [List.map_id] at this

/-! ### closed forms of `arithmetic_cluster` -/

/-- every stored distance of two live entries is in relation `R` to the two leaf sets -/
def DistInv (R : F → List Nat → List Nat → Prop) (s : State F) : Prop :=
  ∀ i j, i < j → isLive s.sets i = true → isLive s.sets j = true →
    ∃ v, dmGet s.dm (i, j) = some v ∧ R v (leaves s.n s.clusters i) (leaves s.n s.clusters j)

theorem distInv_keyOf {R : F → List Nat → List Nat → Prop} (hsymm : ∀ v A B, R v A B → R v B A)
    {s : State F} (hd : DistInv R s) (i c : Nat) (hi : isLive s.sets i = true)
    (hc : isLive s.sets c = true) (hne : i ≠ c) (v : F) (hv : dmGet s.dm (keyOf i c) = some v) :
    R v (leaves s.n s.clusters i) (leaves s.n s.clusters c) := by
  unfold keyOf at hv
  split at hv
  · rename_i hlt
    obtain ⟨w, hw, hR⟩ := hd i c hlt hi hc
    rw [hw] at hv; cases hv; exact hR
  · obtain ⟨w, hw, hR⟩ := hd c i (Nat.lt_of_le_of_ne (Nat.le_of_not_lt ‹_›) hne.symm) hc hi
    rw [hw] at hv; cases hv; exact hsymm _ _ _ hR

/-- `DistInv R` is kept by one iteration of `arithmetic_cluster(comb)` when `comb` turns the
`R`-values for two leaf sets into the `R`-value for their concatenation -/
theorem DistInv.arith (lt : F → F → Bool) (comb : F → F → F) (R : F → List Nat → List Nat → Prop)
    (hsymm : ∀ v A B, R v A B → R v B A)
    (hcomb : ∀ v1 v2 A B1 B2, R v1 A B1 → R v2 A B2 → R (comb v1 v2) A (B1 ++ B2))
    {s s' : State F} (hi : Inv s) (hd : DistInv R s) (h : arithStep lt comb s = some s') :
    DistInv R s' := by
  obtain ⟨c, hs⟩ := Step.of_arith hi.keys h
  obtain ⟨hab, hla, hlb⟩ := closest_live hi.keys hs.closest
  obtain ⟨a, b, d, hcl, hnew, hkeep⟩ := arithStep_update lt comb s s' h
  rw [hs.closest] at hcl
  cases hcl
  have hold : ∀ i, isLive s.sets i = true → i ≠ s.sets.length := fun i h => Nat.ne_of_lt (isLive_lt h)
  intro i j hij hli hlj
  rw [hs.leaves hi i, hs.leaves hi j]
  rcases (hs.live j).1 hlj with ⟨hjl, hja, hjb⟩ | rfl
  · have hjlt := isLive_lt hjl
    rcases (hs.live i).1 hli with ⟨hil, hia, hib⟩ | rfl
    · obtain ⟨v, hv, hR⟩ := hd i j hij hil hjl
      refine ⟨v, ?_, ?_⟩
      · rw [hkeep (i, j) hia hib hja hjb (Nat.ne_of_lt hjlt)]; exact hv
      · rw [if_neg (hold i hil), if_neg (hold j hjl)]; exact hR
    · exact absurd hij (Nat.lt_asymm hjlt)
  · rcases (hs.live i).1 hli with ⟨hil, hia, hib⟩ | rfl
    · obtain ⟨v1, v2, g1, g2, g3⟩ := hnew i hil hia hib
      refine ⟨comb v1 v2, g3, ?_⟩
      rw [if_neg (hold i hil), if_pos rfl]
      exact hcomb _ _ _ _ _ (distInv_keyOf hsymm hd i _ hil hla hia v1 g1)
        (distInv_keyOf hsymm hd i _ hil hlb hib v2 g2)
    · exact absurd hij (Nat.lt_irrefl _)

/-- the distance of two inputs: the callback's answer for the pair in input order (the pair
`(smaller index, larger index)`, the only order in which `Linkage::new` asks) -/
def leafDist (d : List Nat → List Nat → F) (members : List (List Nat)) (a b : Nat) : F :=
  d (members[(keyOf a b).1]?.getD []) (members[(keyOf a b).2]?.getD [])

theorem keyOf_comm (a b : Nat) : keyOf a b = keyOf b a := by
  unfold keyOf
  rcases Nat.lt_trichotomy a b with h | rfl | h
  · rw [if_pos h, if_neg (Nat.lt_asymm h)]
  · rfl
  · rw [if_neg (Nat.lt_asymm h), if_pos h]

theorem leafDist_comm (d : List Nat → List Nat → F) (members : List (List Nat)) (a b : Nat) :
    leafDist d members a b = leafDist d members b a := by
  unfold leafDist; rw [keyOf_comm]

theorem leafDist_of_lt (d : List Nat → List Nat → F) (members : List (List Nat)) {a b : Nat}
    (h : a < b) : leafDist d members a b = d (members[a]?.getD []) (members[b]?.getD []) := by
  rw [leafDist, keyOf, if_pos h]

theorem leafDist_of_symm (d : List Nat → List Nat → F) (hd : ∀ x y, d x y = d y x)
    (members : List (List Nat)) (a b : Nat) :
    leafDist d members a b = d (members[a]?.getD []) (members[b]?.getD []) := by
  unfold leafDist keyOf
  split
  · rfl
  · exact hd _ _

/-- `v` is a least element (w.r.t. the strict comparison `lt`) of the distances `D a b`,
`a ∈ A`, `b ∈ B`: it is one of them and none is smaller -/
def IsMinOver (lt : F → F → Bool) (D : Nat → Nat → F) (v : F) (A B : List Nat) : Prop :=
  (∃ a ∈ A, ∃ b ∈ B, v = D a b) ∧ ∀ a ∈ A, ∀ b ∈ B, lt (D a b) v = false

theorem IsMinOver.symm {lt : F → F → Bool} {D : Nat → Nat → F} (hD : ∀ a b, D a b = D b a)
    (v : F) (A B : List Nat) (h : IsMinOver lt D v A B) : IsMinOver lt D v B A := by
  obtain ⟨⟨a, ha, b, hb, e⟩, h2⟩ := h
  refine ⟨⟨b, hb, a, ha, by rw [e, hD]⟩, ?_⟩
  intro b hb a ha
  rw [hD]; exact h2 a ha b hb

theorem IsMinOver.fmin {lt : F → F → Bool} {D : Nat → Nat → F}
    (htrans : ∀ a b c, lt a b = true → lt b c = true → lt a c = true)
    (htot : ∀ a b, lt a b = true ∨ a = b ∨ lt b a = true)
    (v1 v2 : F) (A B1 B2 : List Nat) (h1 : IsMinOver lt D v1 A B1) (h2 : IsMinOver lt D v2 A B2) :
    IsMinOver lt D (fmin lt v1 v2) A (B1 ++ B2) := by
  obtain ⟨⟨a1, ha1, b1, hb1, e1⟩, m1⟩ := h1
  obtain ⟨⟨a2, ha2, b2, hb2, e2⟩, m2⟩ := h2
  unfold Linkage.fmin
  by_cases hlt : lt v1 v2 = true
  · rw [if_pos hlt]
    refine ⟨⟨a1, ha1, b1, List.mem_append_left _ hb1, e1⟩, ?_⟩
    intro a ha b hb
    rcases List.mem_append.1 hb with hb | hb
    · exact m1 a ha b hb
    · have := m2 a ha b hb
      cases hc : lt (D a b) v1
      · rfl
      · rw [htrans _ _ _ hc hlt] at this; cases this
  · rw [if_neg hlt]
    refine ⟨⟨a2, ha2, b2, List.mem_append_right _ hb2, e2⟩, ?_⟩
    intro a ha b hb
    rcases List.mem_append.1 hb with hb | hb
    · have := m1 a ha b hb
      cases hc : lt (D a b) v2
      · rfl
      · exfalso
        rcases htot v1 v2 with h | h | h
        · exact hlt h
        · rw [h] at this; rw [this] at hc; cases hc
        · rw [htrans _ _ _ hc h] at this; cases this
    · exact m2 a ha b hb

theorem fmax_eq_fmin_flip (lt : F → F → Bool) (v1 v2 : F) :
    fmax lt v1 v2 = fmin (fun x y => lt y x) v1 v2 := rfl

theorem distInv_init (lt : F → F → Bool) (hirr : ∀ a, lt a a = false)
    (d : List Nat → List Nat → F) (members : List (List Nat)) :
    DistInv (IsMinOver lt (leafDist d members)) (init d members) := by
  intro i j hij hi hj
  have hj' : j < members.length := (isLive_map_some members j).1 hj
  have hli : leaves (init d members).n (init d members).clusters i = [i] :=
    leaves_input _ _ _ (Nat.lt_trans hij hj')
  have hlj : leaves (init d members).n (init d members).clusters j = [j] :=
    leaves_input _ _ _ hj'
  refine ⟨_, init_dmGet d members i j hij hj', ?_⟩
  rw [hli, hlj, ← leafDist_of_lt d members hij]
  refine ⟨⟨i, List.mem_singleton_self i, j, List.mem_singleton_self j, rfl⟩, ?_⟩
  intro a ha b hb
  rw [List.mem_singleton.1 ha, List.mem_singleton.1 hb]
  exact hirr _

/-- closed form for a method whose step is `arithmetic_cluster(f32_min)` w.r.t. a strict linear
comparison `cmp` (single linkage: `cmp = lt`; complete linkage: `cmp` = reversed `lt`): in the state
before the `k`-th merge every stored distance is the `cmp`-least input distance between the two leaf
sets (leaf sets read off the FINAL dendrogram), and so is the recorded distance of the `k`-th merge -/
theorem closed_form (m : Method) (lt cmp : F → F → Bool) (mean : F → F → F)
    (d : List Nat → List Nat → F) (hm : stepOf m lt mean d = arithStep lt (fmin cmp))
    (hirr : ∀ a, cmp a a = false)
    (htrans : ∀ a b c, cmp a b = true → cmp b c = true → cmp a c = true)
    (htot : ∀ a b, cmp a b = true ∨ a = b ∨ cmp b a = true)
    (members : List (List Nat)) (sf : State F) (h : cluster m lt mean d members = some sf)
    (k : Nat) (sk : State F)
    (hk : (trace (stepOf m lt mean d) (members.length + 1) (init d members))[k]? = some sk) :
    (∀ i j, i < j → isLive sk.sets i = true → isLive sk.sets j = true →
      ∃ v, dmGet sk.dm (i, j) = some v ∧
        IsMinOver cmp (leafDist d members) v (leaves members.length sf.clusters i)
          (leaves members.length sf.clusters j)) ∧
    ∃ c, sf.clusters[k]? = some c ∧
      IsMinOver cmp (leafDist d members) c.dist (leaves members.length sf.clusters c.lhs)
        (leaves members.length sf.clusters c.rhs) := by
  obtain ⟨_, h2, hlen⟩ := (cluster_run m lt mean d members).1 k sk hk
  obtain ⟨_, h3, c, h4, h5⟩ := cluster_trace h hk
  obtain ⟨h1, hD⟩ :=
    (cluster_invariant m lt mean d (P := fun _ => DistInv (IsMinOver cmp (leafDist d members)))
      (fun _ _ _ _ hx hp _ hs => DistInv.arith lt (fmin cmp) _
        (IsMinOver.symm (leafDist_comm d members)) (IsMinOver.fmin htrans htot) hx hp (hm ▸ hs))
      _ _ (inv_init d members) (distInv_init cmp hirr d members)).1 k sk hk
  -- the recorded distance is the stored distance of the closest pair, so the second part follows
  -- from the first
  refine (and_iff_left_of_imp ?_).2 ?_
  · intro hall
    obtain ⟨hab, hla, hlb⟩ := closest_live h1.keys h5
    obtain ⟨v, hv, hR⟩ := hall c.lhs c.rhs hab hla hlb
    rw [dmGet_of_mem sk.dm h1.keys.1 _ _ (closest_mem lt sk.dm _ h5)] at hv
    cases hv
    exact ⟨c, h4, hR⟩
  · intro i j hij hi hj
    obtain ⟨v, hv, hR⟩ := hD i j hij hi hj
    have hl : sk.sets.length = members.length + k := by rw [h1.len, h2, hlen]
    rw [h2, h3, leaves_take _ _ _ _ (hl ▸ isLive_lt hi), leaves_take _ _ _ _ (hl ▸ isLive_lt hj)] at hR
    exact ⟨v, hv, hR⟩

theorem final_root (m : Method) (lt : F → F → Bool) (mean : F → F → F)
    (d : List Nat → List Nat → F) (members : List (List Nat)) (sf : State F)
    (h : cluster m lt mean d members = some sf) (hn : 2 ≤ members.length) :
    (leaves members.length sf.clusters (2 * members.length - 2)).Perm
      (List.range members.length) := by
  obtain ⟨h2, h3, h4, _⟩ := (cluster_run m lt mean d members).2 sf h
  have hL : LeafInv sf :=
    ((cluster_invariant m lt mean d (P := fun _ => LeafInv)
      (fun _ _ _ _ hx hp hst _ => hp.step hx hst)
      _ _ (inv_init d members) (leafInv_init d members)).2 sf h).1.2
  have hLS := (final_liveSet sf h2 h3 (h4 ▸ hn)).2
  unfold LeafInv at hL
  rw [hLS, Finset.sum_singleton, h4, ← Multiset.coe_range] at hL
  exact Multiset.coe_eq_coe.1 hL

theorem length_leaves (n : Nat) (cl : List (Cluster F))
    (haddr : ∀ k (hk : k < cl.length), cl[k].lhs < n + k ∧ cl[k].rhs < n + k)
    (hsize : ∀ k (hk : k < cl.length), cl[k].size = sz n cl cl[k].lhs + sz n cl cl[k].rhs)
    (i : Nat) (hi : i < n + cl.length) : (leaves n cl i).length = sz n cl i := by
  induction i using Nat.strong_induction_on with
  | _ i ih =>
    by_cases hin : i < n
    · rw [leaves_input n cl i hin, sz_input n cl i hin]; rfl
    · obtain ⟨k, rfl⟩ := Nat.exists_eq_add_of_le (Nat.le_of_not_lt hin)
      have hk : k < cl.length := Nat.lt_of_add_lt_add_left hi
      obtain ⟨a1, a2⟩ := haddr k hk
      rw [sz_cluster n cl k hk, hsize k hk, leaves_cluster n cl k hk a1 a2, List.length_append,
        ih _ a1 (Nat.lt_trans a1 hi), ih _ a2 (Nat.lt_trans a2 hi)]

end Linkage
end Hpo
