import HpoProofs.BinaryLoad
import HpoProofs.BuilderRun
/-!
The class `Reachable` that the binary round trip (C07) quantifies over: what every public constructor
establishes, `Built` plus both roots and the default groups; the Builder lands in it, hence every
`BuilderRun`, with any release version. Around it, what the refinement step (`loadFacts_refine`,
`HpoProofs/LoadRun.lean`) is stated with: the records `as_bytes` writes from `o` as maps over `o`, the
ontology `from_bytes` returns for them (`truncOnto o`: term and gene names cut as documented), and what
is observable of a reloaded ontology (`Loaded`, `ObsTrunc`).
-/
namespace Hpo
namespace Binary
open Group Relation C01

theorem getR_of_mem_nodup {rs : List Rec} (h : (rs.map (·.id)).Nodup) {r : Rec} (hr : r ∈ rs) :
    getR rs r.id = some r :=
  Hpo.getR_of_mem_nodup h hr

theorem ofList_of_sorted (l : List Nat) (h : Sorted l) : Group.ofList l = l :=
  Group.ofList_of_sorted l h

theorem getT_termFacts (ts : List Term) (j : Nat) :
    getT (termFacts ts) j = (getT ts j).map termFact := by
  rw [termFacts_eq_map]; exact getT_map ts termFact (fun _ => rfl) j

/-- What every public constructor establishes (Builder + `build_with_defaults`, proved below in
`reachable_of_builder`; `from_bytes` / the text loaders end in the same builder steps): the clauses of
`Built` (`HpoProofs/Built.lean`, explained there), and both roots exist and categories / modifier are the
default groups (C19).

Nothing is said about names, the slot-0 placeholder, or the order of slots and records. -/
structure Reachable (o : Onto) : Prop where
  nodup : (o.terms.map (·.id)).Nodup
  small : ∀ t ∈ o.terms, t.id < maxId
  closedP : ∀ j p, p ∈ parentsOf o.terms j → (getT o.terms p).isSome
  inverse : ∀ p c, c ∈ childrenOf o.terms p ↔ p ∈ parentsOf o.terms c
  sortedP : ∀ j, Sorted (parentsOf o.terms j)
  sortedC : ∀ j, Sorted (childrenOf o.terms j)
  closure : ∀ j a, a ∈ allOf o.terms j ↔ TransGen (isA o) j a
  acyclic : ∀ j, j ∉ allOf o.terms j
  sortedA : ∀ j, Sorted (allOf o.terms j)
  recNodup : ∀ k, ((o.recs k).map (·.id)).Nodup
  linked : ∀ k x r, r ∈ annOf k o.terms x ↔ ∃ d, d ∈ hposOf k o r ∧ (d = x ∨ x ∈ allOf o.terms d)
  sortedAnn : ∀ k j, Sorted (annOf k o.terms j)
  recTerms : ∀ k r d, d ∈ hposOf k o r → (getT o.terms d).isSome
  hposSorted : ∀ k r, Sorted (hposOf k o r)
  ic : ∀ t ∈ o.terms, ∀ k, t.ic k = icPair (o.recs k).length (t.ann k).length
  icFits : ∀ t ∈ o.terms, ∀ k, (o.recs k).length = 0 ∨ (t.ann k).length = 0 ∨
    ((o.recs k).length ≤ 65535 ∧ (t.ann k).length ≤ 65535)
  roots : (getT o.terms 1).isSome ∧ (getT o.terms Onto.phenotypeId).isSome
  categories : o.categories = defCategories o.terms
  modifier : o.modifier = defModifier o.terms

/-- what the reloaded ontology keeps of a term / a record: names cut as documented -/
def truncTerm (t : Term) : Term := { t with name := truncName t.name }
def truncRec (k : Kind) (r : Rec) : Rec := if k = .gene then { r with name := truncName r.name } else r

/-- the ontology `from_bytes(as_bytes(o))` returns -/
def truncOnto (o : Onto) : Onto :=
  { o with terms := o.terms.map truncTerm, genes := geneFacts o.genes, slot0 := placeholder }

/-- the gene / OMIM / ORPHA section of decoded records, by kind: what `Onto.recs` is for an ontology -/
def factRecs (f : RawFacts) (k : Kind) : List Rec :=
  if k = .gene then f.genes else if k = .omim then f.omim else f.orpha

theorem truncRec_id (k : Kind) (r : Rec) : (truncRec k r).id = r.id := by
  unfold truncRec; split <;> rfl
theorem truncRec_hpos (k : Kind) (r : Rec) : (truncRec k r).hpos = r.hpos := by
  unfold truncRec; split <;> rfl

theorem truncRec_omim : truncRec .omim = id := by funext r; simp [truncRec]
theorem truncRec_orpha : truncRec .orpha = id := by funext r; simp [truncRec]

theorem factRecs_factsOf (o : Onto) (k : Kind) : factRecs (factsOf o) k = (o.recs k).map (truncRec k) := by
  cases k
  · simp [factRecs, factsOf, Onto.recs, truncRec, geneFacts_eq_map]
  · simp [factRecs, factsOf, Onto.recs, truncRec_omim]
  · simp [factRecs, factsOf, Onto.recs, truncRec_orpha]

theorem truncOnto_recs (o : Onto) (k : Kind) : (truncOnto o).recs k = (o.recs k).map (truncRec k) := by
  cases k
  · simp [truncOnto, Onto.recs, truncRec, geneFacts_eq_map]
  · simp [truncOnto, Onto.recs, truncRec_omim]
  · simp [truncOnto, Onto.recs, truncRec_orpha]

theorem Reachable.built {o : Onto} (h : Reachable o) : Built o :=
  { h with }

theorem Reachable.closedC {o : Onto} (h : Reachable o) (j c : Nat) (hc : c ∈ childrenOf o.terms j) :
    (getT o.terms c).isSome :=
  isSome_of_mem_getD ((h.inverse j c).1 hc)

theorem Reachable.closedA {o : Onto} (h : Reachable o) (j a : Nat) (ha : a ∈ allOf o.terms j) :
    (getT o.terms a).isSome := h.built.closedA j a ha

theorem Reachable.annResolves {o : Onto} (h : Reachable o) (k : Kind) (x r : Nat)
    (hr : r ∈ annOf k o.terms x) : (getR (o.recs k) r).isSome := h.built.annResolves k x r hr

/-- the record as `add_genes_from_bytes` stores it: its terms collected into an `HpoGroup` -/
def normRec (r : Rec) : Rec := { r with hpos := Group.ofList r.hpos }

section
variable (anc : Nat → List Nat) (ex : Nat → Prop)

/-- `linkAll`: the record id `r` is linked to its direct terms one after the other while the record
itself is not yet in the map (the "pending record": `done` are the direct terms linked so far).
The `linked` clause of `AnnInv` is false for `r` in between; what the recursion of `link` needs
(`UpClosedAbove`) still holds. -/
theorem linkAll_post (rank : Nat → Nat) (hc : AncClosure anc ex rank) (k : Kind) (r : Nat) (o0 : Onto)
    (hinv : AnnInv anc ex o0) (hf : ∀ j, rank j < o0.terms.length + 2) :
    ∀ (ts done : List Nat) (o : Onto), (∀ t ∈ ts, ex t) →
      o = { o0 with terms := o.terms } → UpdAnn k o0.terms o.terms → LState anc ex k o.terms →
      (∀ x h, h ∈ annOf k o.terms x ↔ h ∈ annOf k o0.terms x ∨ (h = r ∧ ∃ d ∈ done, Up anc d x)) →
      ∃ o', Onto.linkAll k r ts o = .ok o' ∧ o' = { o0 with terms := o'.terms } ∧
        UpdAnn k o0.terms o'.terms ∧ LState anc ex k o'.terms ∧
        (∀ x h, h ∈ annOf k o'.terms x ↔
          h ∈ annOf k o0.terms x ∨ (h = r ∧ ∃ d ∈ done ++ ts, Up anc d x)) := by
  intro ts
  induction ts with
  | nil =>
    intro done o _ hrest hupd hst hfr
    exact ⟨o, rfl, hrest, hupd, hst, by rw [List.append_nil]; exact hfr⟩
  | cons t ts ih =>
    intro done o hex hrest hupd hst hfr
    have hlen : o.terms.length = o0.terms.length := length_eq_of_map_eq hupd.1
    have hup : UpClosedAbove anc k o.terms r t := by
      intro x _ hgx y hy
      rcases (hfr x r).1 hgx with h1 | ⟨_, d, hd, hu⟩
      · exact (hfr y r).2 (Or.inl (hinv.upclosed rank hc k x r h1 y hy))
      · refine (hfr y r).2 (Or.inr ⟨rfl, d, hd, Or.inr ?_⟩)
        rcases hu with rfl | hu
        · exact hy
        · exact hc.trans d x y hu hy
    obtain ⟨o1, hl, p⟩ := link_post anc ex k r rank hc o.linkFuel o t
      (by simp only [Onto.linkFuel, hlen]; exact hf t) (hex t (by simp)) hst hup
    obtain ⟨o', hl', hrest', hupd', hst', hfr'⟩ := ih (done ++ [t]) o1
      (fun u hu => hex u (by simp [hu])) (by rw [p.rest, hrest]) (hupd.trans p.upd) p.state (by
        intro x h
        rw [p.frame x h, hfr x h, or_assoc, ← and_or_left]
        simp only [List.mem_append, List.mem_singleton, or_and_right, exists_or, exists_eq_left])
    refine ⟨o', by rw [Onto.linkAll, hl, Res.bind_ok, hl'], hrest', hupd', hst', ?_⟩
    intro x h
    rw [hfr' x h]
    simp only [List.append_assoc, List.singleton_append]

end

theorem factRecs_perm {g f : RawFacts} (hp : FactsPerm g f) (k : Kind) :
    (factRecs g k).Perm (factRecs f k) := by
  cases k
  · simpa [factRecs] using hp.genes
  · simpa [factRecs] using hp.omim
  · simpa [factRecs] using hp.orpha

theorem normRec_of_sorted (r : Rec) (h : Sorted r.hpos) : normRec r = r := by
  cases r; simp only [normRec, Rec.mk.injEq, true_and]; exact ofList_of_sorted _ h

theorem map_id_truncRec (k : Kind) (rs : List Rec) : (rs.map (truncRec k)).map (·.id) = rs.map (·.id) := by
  rw [List.map_map]; exact List.map_congr_left fun r _ => truncRec_id k r

/-- Section `k` of `f` stands for the record map of `o`: distinct ids, terms of `o` only, as many records,
and stored the way `add_*_from_bytes` stores it (`normRec`) it has the lookups of `o.recs k`, gene names cut.
True of every permutation of the records `as_bytes` writes from a `Reachable` `o` (`recFacts_ok`). -/
structure RecFacts (o : Onto) (f : RawFacts) (k : Kind) : Prop where
  nodup : ((factRecs f k).map (·.id)).Nodup
  resolve : ∀ r ∈ factRecs f k, ∀ d ∈ r.hpos, (getT o.terms d).isSome
  lookup : ∀ r, getR ((factRecs f k).map normRec) r = (getR (o.recs k) r).map (truncRec k)
  length : (factRecs f k).length = (o.recs k).length

theorem recFacts_ok (o : Onto) (h : Reachable o) (f : RawFacts) (hp : FactsPerm (factsOf o) f)
    (k : Kind) : RecFacts o f k := by
  have perm := factRecs_perm hp k
  rw [factRecs_factsOf] at perm
  have nodup0 : (((o.recs k).map (truncRec k)).map (·.id)).Nodup := by
    rw [map_id_truncRec]; exact h.recNodup k
  refine ⟨(perm.map _).nodup_iff.1 nodup0, ?_, ?_, ?_⟩
  · intro r hr d hd
    obtain ⟨r0, hr0, rfl⟩ := List.mem_map.1 (perm.mem_iff.2 hr)
    rw [truncRec_hpos] at hd
    have hg := getR_of_mem_nodup (h.recNodup k) hr0
    exact h.recTerms k r0.id d (by rw [hposOf_eq hg]; exact hd)
  · intro r
    rw [getR_map _ normRec (fun _ => rfl), ← getR_perm perm nodup0 r,
      getR_map _ (truncRec k) (truncRec_id k)]
    cases hg : getR (o.recs k) r with
    | none => rfl
    | some r0 =>
      simp only [Option.map_some, Option.some.injEq]
      apply normRec_of_sorted
      rw [truncRec_hpos, ← hposOf_eq hg]
      exact h.hposSorted k r
  · rw [← perm.length_eq, List.length_map]

/-- what is observable of the reloaded ontology `o'` (loaded from the records `f`), relative to `o`:
same release version; every term lookup returns the term of `o` with all its fields, the name cut;
every record lookup returns the record of `o` (gene names cut); same categories and modifier; the
slots / records are those of the file, in file order. -/
structure Loaded (o : Onto) (f : RawFacts) (o' : Onto) : Prop where
  version : o'.version = o.version
  slot0 : o'.slot0 = placeholder
  termIds : o'.terms.map (·.id) = f.terms.map (·.id)
  terms : ∀ j, getT o'.terms j = (getT o.terms j).map truncTerm
  recIds : ∀ k, (o'.recs k).map (·.id) = (factRecs f k).map (·.id)
  recs : ∀ k r, getR (o'.recs k) r = (getR (o.recs k) r).map (truncRec k)
  categories : o'.categories = o.categories
  modifier : o'.modifier = o.modifier

theorem reachable_of_built {r d : Onto} (B : Built r) (hd : r.buildWithDefaults = .ok d) :
    Reachable d := by
  obtain ⟨h1, h2, rfl⟩ := (buildWithDefaults_ok_iff r d B.smallT).1 hd
  exact { B with roots := ⟨h1, h2⟩, categories := rfl, modifier := rfl }

/-- **Non-vacuity and link to the public constructors.** Every ontology the Builder produces —
any history of `new_term` / `add_parent` calls (failing ones included) with an acyclic result,
`connect_all_terms`, any history of `add_gene` / `add_*_disease` / `annotate_*` calls,
`calculate_information_content`, `build_with_defaults` — is `Reachable`. -/
theorem reachable_of_builder (tops : List BOp) (o oc : Onto) (hrun : runB tops {} = some o)
    (hac : Acyclic o) (hc : o.connectAll = .ok oc) (aops : List AOp) (r d : Onto)
    (hic : (runA aops oc).calcIc = .ok r) (hd : r.buildWithDefaults = .ok d) : Reachable d :=
  reachable_of_built (built_of_run (connected_of_run hrun hac hc) hic) hd

/-- `o'` shows the observations of `o` with term and gene names cut to ≤ 255 bytes: same release
version, same set of term ids and every term lookup equal in all other fields (flags, parents,
children, ancestors, linked records of the three kinds, ic pairs), same set of record ids per kind and
every record lookup equal (direct terms), same categories and modifier. -/
structure ObsTrunc (o o' : Onto) : Prop where
  version : o'.version = o.version
  terms : ∀ j, getT o'.terms j = (getT o.terms j).map truncTerm
  termSet : (o'.terms.map (·.id)).Perm (o.terms.map (·.id))
  recs : ∀ k r, getR (o'.recs k) r = (getR (o.recs k) r).map (truncRec k)
  recSet : ∀ k, ((o'.recs k).map (·.id)).Perm ((o.recs k).map (·.id))
  categories : o'.categories = o.categories
  modifier : o'.modifier = o.modifier

theorem Loaded.obs {o : Onto} (h : Reachable o) {f : RawFacts} {o' : Onto} (L : Loaded o f o')
    (hp : FactsPerm (factsOf o) f) : ObsTrunc o o' := by
  refine ⟨L.version, L.terms, ?_, L.recs, ?_, L.categories, L.modifier⟩
  · rw [L.termIds]
    have := (hp.terms.map (fun t : Term => t.id)).symm
    rwa [show (factsOf o).terms = termFacts o.terms from rfl, map_id_termFacts] at this
  · intro k; rw [L.recIds k]
    have perm := (factRecs_perm hp k).map (fun r : Rec => r.id)
    rwa [factRecs_factsOf, map_id_truncRec, List.perm_comm] at perm

theorem ObsTrunc.same_lookups {o o1 o2 : Onto} (a : ObsTrunc o o1) (b : ObsTrunc o o2) :
    o1.version = o2.version ∧ (∀ j, getT o1.terms j = getT o2.terms j) ∧
    (∀ k r, getR (o1.recs k) r = getR (o2.recs k) r) ∧
    o1.categories = o2.categories ∧ o1.modifier = o2.modifier :=
  ⟨a.version.trans b.version.symm, fun j => (a.terms j).trans (b.terms j).symm,
   fun k r => (a.recs k r).trans (b.recs k r).symm, a.categories.trans b.categories.symm,
   a.modifier.trans b.modifier.symm⟩

theorem getT_truncOnto (o : Onto) (j : Nat) :
    getT (truncOnto o).terms j = (getT o.terms j).map truncTerm :=
  getT_map o.terms truncTerm (fun _ => rfl) j

theorem getR_truncOnto (o : Onto) (k : Kind) (r : Nat) :
    getR ((truncOnto o).recs k) r = (getR (o.recs k) r).map (truncRec k) := by
  rw [truncOnto_recs]; exact getR_map _ (truncRec k) (truncRec_id k) r

theorem truncOnto_ids (o : Onto) : (truncOnto o).terms.map (·.id) = o.terms.map (·.id) := by
  show (o.terms.map truncTerm).map (·.id) = _
  rw [List.map_map]; rfl

theorem truncOnto_recIds (o : Onto) (k : Kind) :
    ((truncOnto o).recs k).map (·.id) = (o.recs k).map (·.id) := by
  rw [truncOnto_recs, map_id_truncRec]

theorem obsTrunc_truncOnto (o : Onto) : ObsTrunc o (truncOnto o) :=
  ⟨rfl, getT_truncOnto o, by rw [truncOnto_ids], getR_truncOnto o,
   fun k => by rw [truncOnto_recIds], rfl, rfl⟩

/-- names that fit the length byte are not cut -/
theorem truncOnto_eq_self (o : Onto) (hs : o.slot0 = placeholder)
    (ht : ∀ t ∈ o.terms, (Proto.utf8 t.name).length ≤ 255)
    (hr : ∀ r ∈ o.genes, (Proto.utf8 r.name).length ≤ 255) : truncOnto o = o := by
  have e1 : o.terms.map truncTerm = o.terms := by
    refine (List.map_congr_left fun t htm => ?_).trans (List.map_id o.terms)
    rw [truncTerm, truncName, takeFit_eq_self 255 t.name (ht t htm)]
    rfl
  have e2 : geneFacts o.genes = o.genes := by
    rw [geneFacts_eq_map]
    refine (List.map_congr_left fun r hrm => ?_).trans (List.map_id o.genes)
    rw [truncName, takeFit_eq_self 255 r.name (hr r hrm)]
    rfl
  rw [truncOnto, e1, e2, ← hs]

end Binary

namespace Text
open Hpo.Binary

/-- every ontology of a builder program is `Reachable` (the class C07 quantifies over) -/
theorem BuilderRun.reachable {fs : List TermFact} {es : List EdgeFact} {aops : List AOp} {a oc r d : Onto}
    (R : BuilderRun fs es aops a oc r d) : Reachable d :=
  reachable_of_builder _ a oc R.run R.acyclic R.connect aops r d R.ic R.build

theorem reachable_setV {d : Onto} (h : Reachable d) (v : Nat × Nat × Nat) : Reachable (setV v d) :=
  -- no clause mentions `version`
  { h with }

end Text
end Hpo
