import HpoProofs.LoadRefine
/-!
The builder steps of `Ontology::from_bytes` on decoded records (`Onto.loadFacts`, `HpoModel/Load.lean`)
ARE the checked Builder-API program (`BuilderRun`) over the records in file order (`loadFacts_eq_run`,
failing loads included). The one step no other loader has is a gene / disease section: `from_bytes`
links every listed term and inserts the record afterwards, the Builder inserts first; with record ids
distinct inside a section the two are the same state transition (`addRecsFromBytes_eq_annotateSeq`).
So records that are well formed by conditions on the records alone (`WFRecords`) load, to a `Reachable`
ontology whose lookups do not depend on the order inside the sections. The round trip (C07) is that run
on the records `as_bytes` writes from a `Reachable` ontology, compared with it stage by stage
(`loadFacts_refine_run`).
-/
namespace Hpo
namespace Binary
open Group Hpo.C01 Hpo.C02 Hpo.C16 Hpo.Text

/-! ### `link_*_term` neither reads nor writes the record maps -/

theorem linkFuel_setRecs (o : Onto) (k : Kind) (v : List Rec) : (o.setRecs k v).linkFuel = o.linkFuel := by
  cases k <;> rfl

theorem link_setRecs (k' : Kind) (v : List Rec) (k : Kind) (r : Nat) :
    ∀ (fuel : Nat) (o : Onto) (t : Nat),
      Onto.link k r fuel (o.setRecs k' v) t = mapR (fun x => x.setRecs k' v) (Onto.link k r fuel o t) :=
  Onto.link_outside (g := fun x => x.setRecs k' v)
    ⟨fun _ => terms_setRecs .., fun _ => by cases k' <;> rfl, fun _ _ => by cases k' <;> rfl,
      fun _ _ => by cases k' <;> rfl⟩ k r

theorem link_rest (k : Kind) (r : Nat) :
    ∀ (fuel : Nat) (o : Onto) (t : Nat) (o' : Onto), Onto.link k r fuel o t = .ok o' →
      o' = { o with terms := o'.terms } :=
  Onto.link_preorder (R := fun o o' => o' = { o with terms := o'.terms }) (fun _ => rfl)
    (fun h1 h2 => by rw [h2, h1]) (fun _ _ _ => rfl) r

theorem linkAll_rest (k : Kind) (r : Nat) :
    ∀ (ts : List Nat) (o o' : Onto), Onto.linkAll k r ts o = .ok o' → o' = { o with terms := o'.terms } :=
  Onto.linkAll_preorder (R := fun o o' => o' = { o with terms := o'.terms }) (fun _ => rfl)
    (fun h1 h2 => by rw [h2, h1]) (fun _ _ _ => rfl) r

/-! ### one gene / disease record: "link, then insert" = "insert, then annotate" -/

def mkRec (id : Nat) (name : List Char) (hpos : List Nat) : Rec := { id := id, name := name, hpos := hpos }

theorem modR_fresh (rs : List Rec) (i : Nat) (f : Rec → Rec) (h : getR rs i = none) : modR rs i f = rs :=
  modR_of_none rs i f h

/-- the annotate calls of one record on the state where the record is already in the map (id fresh
before) are the `link` calls of `from_bytes` on the state without the record -/
theorem annotateSeq_record (k : Kind) (id : Nat) (name : List Char) :
    ∀ (ts : List Nat) (o : Onto) (h : List Nat), getR (o.recs k) id = none →
      annotateSeq (ts.map (fun t => AOp.annotate k id name t)) (o.setRecs k (o.recs k ++ [mkRec id name h])) =
        (Onto.linkAll k id ts o).bind fun o' =>
          .ok (o'.setRecs k (o.recs k ++ [mkRec id name (Group.insertAll h ts)])) := by
  intro ts
  induction ts with
  | nil => intro o h _; rfl
  | cons t ts ih =>
    intro o h hfresh
    have hget : getR (o.recs k ++ [mkRec id name h]) id = some (mkRec id name h) := by
      rw [getR_snoc, hfresh]; simp [mkRec]
    -- `add_gene` finds the record, `record.add_term` changes it in place
    have hadd : (o.setRecs k (o.recs k ++ [mkRec id name h])).addTermToRec k name id t =
        o.setRecs k (o.recs k ++ [mkRec id name (Group.insert h t).1]) := by
      rw [Onto.addTermToRec, Onto.addRec, recs_setRecs, addR_of_some (r := { id := id, name := name }) hget,
        setRecs_setRecs, recs_setRecs, setRecs_setRecs]
      exact congrArg _ (modR_snoc_of_none (o.recs k) (mkRec id name h) _ hfresh)
    simp only [List.map_cons, annotateSeq, Onto.linkAll, Onto.annotate, get_setRecs]
    cases hg : o.get t with
    | none => simp only [Onto.link, Onto.linkFuel, hg, Res.bind]
    | some tm =>
      simp only [hadd, linkFuel_setRecs, link_setRecs, mapR, Res.bind_assoc, Res.bind_ok]
      refine Res.bind_congr fun o1 hl => ?_
      have hr1 : o1.recs k = o.recs k := recs_of_rest (link_rest k id _ o t o1 hl) k
      have := ih o1 (Group.insert h t).1 (by rw [hr1]; exact hfresh)
      rwa [hr1] at this

/-- the Builder calls of one record: `add_gene(name, id)` (also for a record without terms), then
`annotate_gene(id, name, term)` for each listed term, deduplicated and ascending -/
def recOpsOf (k : Kind) (r : Rec) : List AOp :=
  .addRec k r.name r.id :: (Group.ofList r.hpos).map (fun t => AOp.annotate k r.id r.name t)

/-- … of a section, in file order -/
def recOps (k : Kind) : List Rec → List AOp
  | [] => []
  | r :: rs => recOpsOf k r ++ recOps k rs

/-- **`add_genes_from_bytes` is a Builder call history** (same for the two disease sections): with
record ids distinct inside the section and not yet in the map, linking every listed term and then
`HashMap::insert`ing the record is, record by record, the same state transition as `add_gene` followed
by the `annotate_gene` calls — including every failure (`DoesNotExist` for an unknown term). -/
theorem addRecsFromBytes_eq_annotateSeq (k : Kind) :
    ∀ (rs : List Rec) (o : Onto), (rs.map (·.id)).Nodup → (∀ r ∈ rs, getR (o.recs k) r.id = none) →
      Onto.addRecsFromBytes k rs o = annotateSeq (recOps k rs) o := by
  intro rs
  induction rs with
  | nil => intro o _ _; rfl
  | cons r rs ih =>
    intro o hnd hfresh
    simp only [List.map_cons, List.nodup_cons] at hnd
    have hfr0 := hfresh r (by simp)
    have hadd : o.addRec k r.name r.id = o.setRecs k (o.recs k ++ [mkRec r.id r.name []]) := by
      rw [Onto.addRec, addR_of_none (r := { id := r.id, name := r.name }) hfr0]; rfl
    simp only [Onto.addRecsFromBytes, recOps, recOpsOf, List.cons_append, annotateSeq, annotateSeq_append]
    rw [hadd, annotateSeq_record k r.id r.name _ o [] hfr0, insertAll_nil_ofList, Res.bind_assoc]
    refine Res.bind_congr fun o1 hl => ?_
    have hput : putR (o1.recs k) (normRec r) = o.recs k ++ [normRec r] := by
      rw [recs_of_rest (linkAll_rest k r.id _ o o1 hl) k, putR_of_none (r := normRec r) hfr0]
    rw [Res.bind_ok]
    refine (congrArg (fun v => Onto.addRecsFromBytes k rs (o1.setRecs k v)) hput).trans (ih _ hnd.2 ?_)
    intro r' hr'
    rw [recs_setRecs, getR_snoc, hfresh r' (by simp [hr']), Option.none_or,
      if_neg fun e : (normRec r).id = r'.id => hnd.1 (List.mem_map.2 ⟨r', hr', e.symm⟩)]

theorem foldl_putR_fresh (l : List Rec) : ∀ base : List Rec, ((base ++ l).map (·.id)).Nodup →
    l.foldl putR base = base ++ l := by
  induction l with
  | nil => intro base _; exact (List.append_nil base).symm
  | cons r l ih =>
    intro base h
    have hr : getR base r.id = none := (getR_none_iff base r.id).2 fun hm =>
      (List.nodup_append.1 (List.map_append ▸ h)).2.2 _ hm _ (List.mem_map_of_mem List.mem_cons_self) rfl
    rw [List.foldl_cons, putR_of_none hr, ih (base ++ [r]) (by rwa [List.append_assoc]), List.append_assoc]
    rfl

theorem addRecsFromBytes_recs (k : Kind) : ∀ (rs : List Rec) (o o' : Onto),
    Onto.addRecsFromBytes k rs o = .ok o' →
      o'.recs k = (rs.map normRec).foldl putR (o.recs k) ∧ ∀ k', k' ≠ k → o'.recs k' = o.recs k' := by
  intro rs
  induction rs with
  | nil => intro o o' h; cases h; exact ⟨rfl, fun _ _ => rfl⟩
  | cons r rs ih =>
    intro o o' h
    obtain ⟨o1, h1, h2⟩ := Res.bind_eq_ok.1 h
    have hr := recs_of_rest (linkAll_rest k r.id _ o o1 h1)
    obtain ⟨e1, e2⟩ := ih _ o' h2
    refine ⟨?_, fun k' hk => ?_⟩
    · rw [e1, recs_setRecs, hr k]; rfl
    · rw [e2 k' hk, recs_setRecs_ne _ _ _ _ hk, hr k']

theorem recOps_eq_flatMap (k : Kind) (rs : List Rec) : recOps k rs = rs.flatMap (recOpsOf k) := by
  induction rs with
  | nil => rfl
  | cons r rs ih => rw [recOps, ih, List.flatMap_cons]

theorem mem_recOps (k : Kind) (rs : List Rec) (op : AOp) :
    op ∈ recOps k rs ↔ ∃ r ∈ rs, op = .addRec k r.name r.id ∨ ∃ t ∈ r.hpos, op = .annotate k r.id r.name t := by
  simp only [recOps_eq_flatMap, List.mem_flatMap, recOpsOf, List.mem_cons, List.mem_map, mem_ofList, eq_comm]

theorem recOps_perm (k : Kind) {r1 r2 : List Rec} (h : r1.Perm r2) : (recOps k r1).Perm (recOps k r2) := by
  rw [recOps_eq_flatMap, recOps_eq_flatMap]; exact h.flatMap_right _

/-! ### the records of a file as Builder facts -/

/-- `new_term` facts of a file, in file order -/
def fileFacts (f : RawFacts) : List TermFact := f.terms.map termFactOf
/-- is_a facts `(parent, child)` of a file, one per entry of a parent record, in file order -/
def fileEdges (f : RawFacts) : List EdgeFact := edgesOf f.parents
/-- annotation calls of a file: genes, then OMIM, then ORPHA diseases, in file order -/
def fileAOps (f : RawFacts) : List AOp := recOps .gene f.genes ++ (recOps .omim f.omim ++ recOps .orpha f.orpha)

def IsTerm (f : RawFacts) (j : Nat) : Prop := ∃ t ∈ f.terms, t.id = j

/-- a decoded term record carries id, name, obsolete flag and replacement and nothing else -/
def BareRecs (f : RawFacts) : Prop := ∀ t ∈ f.terms, t = (termFactOf t).term

/-- **Well-formed record set**: what makes `from_bytes` succeed with an ontology that does not depend
on the order of the records (explicit, checkable conditions on the records; no ontology is assumed to
have written them). -/
structure WFRecords (f : RawFacts) : Prop where
  /-- one term fact per term id: two term records with the same id agree in name, obsolete flag and
  replacement (`Arena::insert` keeps the first one) -/
  termsFun : ∀ t ∈ f.terms, ∀ u ∈ f.terms, t.id = u.id → termFactOf t = termFactOf u
  /-- the term of a parent record and every parent it lists are terms of the file
  (`add_parent_unchecked` does not check) -/
  parentsClosed : ∀ r ∈ f.parents, IsTerm f r.1 ∧ ∀ p ∈ r.2, IsTerm f p
  /-- no is_a cycle: some rank strictly decreases from a term to each listed parent -/
  acyclic : ∃ rank : Nat → Nat, ∀ r ∈ f.parents, ∀ p ∈ r.2, rank p < rank r.1
  /-- record ids are distinct inside each of the three sections (`HashMap::insert` replaces) -/
  recIds : ∀ k, ((factRecs f k).map (·.id)).Nodup
  /-- every term a gene / disease record lists is a term of the file -/
  recTerms : ∀ k, ∀ r ∈ factRecs f k, ∀ d ∈ r.hpos, IsTerm f d
  /-- at most 65 535 records per section (`calculate_information_content` converts via `u16`) -/
  fit : ∀ k, (factRecs f k).length ≤ 65535
  /-- `HP:0000001` and `HP:0000118` are terms (`build_with_defaults`) -/
  root : IsTerm f 1
  phenotype : IsTerm f Onto.phenotypeId

theorem isTerm_iff (f : RawFacts) (j : Nat) : IsTerm f j ↔ ∃ x ∈ fileFacts f, x.id = j := by
  simp only [IsTerm, fileFacts, List.mem_map]
  constructor
  · rintro ⟨t, ht, e⟩; exact ⟨termFactOf t, ⟨t, ht, rfl⟩, e⟩
  · rintro ⟨x, ⟨t, ht, rfl⟩, e⟩; exact ⟨t, ht, e⟩

theorem WFRecords.functional {f : RawFacts} (W : WFRecords f) : Functional (fileFacts f) := by
  intro x hx y hy e
  obtain ⟨t, ht, rfl⟩ := List.mem_map.1 hx
  obtain ⟨u, hu, rfl⟩ := List.mem_map.1 hy
  exact W.termsFun t ht u hu e

theorem WFRecords.acyclicEdges {f : RawFacts} (W : WFRecords f) : AcyclicEdges (fileEdges f) := by
  obtain ⟨rank, hr⟩ := W.acyclic
  refine ⟨rank, ?_⟩
  rintro ⟨p, c⟩ he
  obtain ⟨ps, hm, hp⟩ := (mem_edgesOf f.parents p c).1 he
  exact hr (c, ps) hm p hp

theorem mem_fileAOps (f : RawFacts) (op : AOp) :
    op ∈ fileAOps f ↔ ∃ k, ∃ r ∈ factRecs f k,
      op = .addRec k r.name r.id ∨ ∃ t ∈ r.hpos, op = .annotate k r.id r.name t := by
  simp only [fileAOps, List.mem_append, mem_recOps]
  constructor
  · rintro (h | h | h)
    · exact ⟨.gene, h⟩
    · exact ⟨.omim, h⟩
    · exact ⟨.orpha, h⟩
  · rintro ⟨k, h⟩
    cases k
    · exact Or.inl h
    · exact Or.inr (Or.inl h)
    · exact Or.inr (Or.inr h)

theorem WFRecords.countsFit {f : RawFacts} (W : WFRecords f) : CountsFit (fileAOps f) := by
  intro k ids hnd hall
  have hsub : ids ⊆ (factRecs f k).map (·.id) := by
    intro i hi
    obtain ⟨op, hop, he⟩ := hall i hi
    obtain ⟨k', r, hr, h⟩ := (mem_fileAOps f op).1 hop
    have hid : op.recId = (k', r.id) := by rcases h with rfl | ⟨t, _, rfl⟩ <;> rfl
    cases he.symm.trans hid
    exact List.mem_map_of_mem hr
  have := List.Nodup.length_le_of_subset hnd hsub
  simp only [List.length_map] at this
  exact Nat.le_trans this (W.fit k)

def fileNameOf (f : RawFacts) (k : Kind) (r : Nat) : List Char := ((getR (factRecs f k) r).map (·.name)).getD []

theorem WFRecords.names {f : RawFacts} (W : WFRecords f) : NamesFunctional (fileNameOf f) (fileAOps f) := by
  intro op hop k r n hnm
  obtain ⟨k0, r0, hr0, h⟩ := (mem_fileAOps f op).1 hop
  have hname : op.nameFor k r = if k0 = k ∧ r0.id = r then some r0.name else none := by
    rcases h with rfl | ⟨t, _, rfl⟩ <;> rfl
  rw [hname] at hnm
  split at hnm
  · rename_i hkr
    obtain ⟨rfl, rfl⟩ := hkr
    rw [← Option.some.inj hnm, fileNameOf, getR_of_mem_nodup (W.recIds k0) hr0]
    rfl
  · cases hnm

theorem known_fileAOps (f : RawFacts) (hrt : ∀ k, ∀ r ∈ factRecs f k, ∀ d ∈ r.hpos, IsTerm f d) :
    ∀ op ∈ fileAOps f, op.Known (fun j => ∃ x ∈ fileFacts f, x.id = j) := by
  intro op hop
  obtain ⟨k, r, hr, h⟩ := (mem_fileAOps f op).1 hop
  rcases h with rfl | ⟨t, ht, rfl⟩
  · trivial
  · exact (isTerm_iff f t).1 (hrt k r hr t ht)

theorem factRecs_perm' {f g : RawFacts} (hp : FactsPerm f g) (k : Kind) : (factRecs f k).Perm (factRecs g k) :=
  factRecs_perm hp k

theorem fileAOps_perm {f g : RawFacts} (hp : FactsPerm f g) : (fileAOps f).Perm (fileAOps g) :=
  (recOps_perm .gene hp.genes).append ((recOps_perm .omim hp.omim).append (recOps_perm .orpha hp.orpha))

theorem WFRecords.perm {f g : RawFacts} (W : WFRecords f) (hp : FactsPerm f g) : WFRecords g := by
  have hst : ∀ j, IsTerm f j → IsTerm g j := by
    rintro j ⟨t, ht, e⟩; exact ⟨t, hp.terms.mem_iff.1 ht, e⟩
  refine ⟨fun t ht u hu => W.termsFun t (hp.terms.mem_iff.2 ht) u (hp.terms.mem_iff.2 hu), ?_, ?_, ?_, ?_, ?_,
    hst _ W.root, hst _ W.phenotype⟩
  · intro r hr
    obtain ⟨h1, h2⟩ := W.parentsClosed r (hp.parents.mem_iff.2 hr)
    exact ⟨hst _ h1, fun p hp' => hst _ (h2 p hp')⟩
  · obtain ⟨rank, hr⟩ := W.acyclic
    exact ⟨rank, fun r hr' => hr r (hp.parents.mem_iff.2 hr')⟩
  · intro k; exact ((factRecs_perm hp k).map _).nodup_iff.1 (W.recIds k)
  · intro k r hr d hd; exact hst _ (W.recTerms k r ((factRecs_perm hp k).mem_iff.2 hr) d hd)
  · intro k; rw [← (factRecs_perm hp k).length_eq]; exact W.fit k

/-! ### what a file of format version `fv` carries -/

theorem bareRecs_projFacts (fv : Nat) (f : RawFacts) : BareRecs (projFacts fv f) := by
  intro t ht
  obtain ⟨t0, _, rfl⟩ := List.mem_map.1 ht
  unfold projTerm; split <;> rfl

theorem isTerm_projFacts (fv : Nat) (f : RawFacts) (j : Nat) : IsTerm (projFacts fv f) j ↔ IsTerm f j := by
  simp only [IsTerm, projFacts, List.mem_map]
  constructor
  · rintro ⟨t, ⟨t0, ht0, rfl⟩, e⟩; exact ⟨t0, ht0, by rw [← e, projTerm_id]⟩
  · rintro ⟨t, ht, e⟩; exact ⟨projTerm fv t, ⟨t, ht, rfl⟩, by rw [projTerm_id, e]⟩

/-- a section of what a file of format version `fv` carries is the section or (ORPHA before v3) empty -/
theorem factRecs_projFacts_sublist (fv : Nat) (f : RawFacts) (k : Kind) :
    (factRecs (projFacts fv f) k).Sublist (factRecs f k) := by
  cases k
  · exact List.Sublist.refl _
  · exact List.Sublist.refl _
  · simp only [factRecs, projFacts, reduceCtorEq, ↓reduceIte]
    split
    · exact List.Sublist.refl _
    · exact List.nil_sublist _

/-- well-formed records stay well formed in what a v1 / v2 / v3 file carries of them -/
theorem WFRecords.proj {f : RawFacts} (W : WFRecords f) (fv : Nat) : WFRecords (projFacts fv f) := by
  have hst := isTerm_projFacts fv f
  have hsub := factRecs_projFacts_sublist fv f
  refine ⟨?_, ?_, W.acyclic, fun k => ((hsub k).map _).nodup (W.recIds k),
    fun k r hr d hd => (hst _).2 (W.recTerms k r ((hsub k).subset hr) d hd),
    fun k => Nat.le_trans (hsub k).length_le (W.fit k), (hst _).2 W.root, (hst _).2 W.phenotype⟩
  · intro t ht u hu e
    obtain ⟨t0, ht0, rfl⟩ := List.mem_map.1 ht
    obtain ⟨u0, hu0, rfl⟩ := List.mem_map.1 hu
    rw [projTerm_id, projTerm_id] at e
    have := W.termsFun t0 ht0 u0 hu0 e
    simp only [termFactOf, TermFact.mk.injEq] at this
    obtain ⟨h1, h2, h3, h4⟩ := this
    unfold projTerm
    split <;> simp [termFactOf, plainTerm, cleanTerm, h1, h2, h3, h4]
  · intro r hr
    obtain ⟨h1, h2⟩ := W.parentsClosed r hr
    exact ⟨(hst _).2 h1, fun p hp => (hst _).2 (h2 p hp)⟩

/-! ### `Onto.loadFacts` is the builder program -/

/-- the three record sections of `from_bytes`, on a state without records, are one call history -/
theorem sections_eq (f : RawFacts) (hnd : ∀ k, ((factRecs f k).map (·.id)).Nodup) (K : Onto → Res Onto)
    (o : Onto) (hempty : ∀ k, o.recs k = []) :
    ((Onto.addRecsFromBytes .gene f.genes o).bind fun o4 =>
      (Onto.addRecsFromBytes .omim f.omim o4).bind fun o5 =>
        (Onto.addRecsFromBytes .orpha f.orpha o5).bind K) =
      (annotateSeq (fileAOps f) o).bind K := by
  -- a section leaves the maps of the other kinds empty, so every record id of the next one is fresh
  have hfresh : ∀ {k : Kind} {o' : Onto} (rs : List Rec), o'.recs k = [] →
      ∀ r ∈ rs, getR (o'.recs k) r.id = none := fun _ h _ _ => by rw [h]; rfl
  rw [fileAOps, annotateSeq_append, Res.bind_assoc,
    ← addRecsFromBytes_eq_annotateSeq .gene f.genes o (hnd .gene) (hfresh _ (hempty _))]
  refine Res.bind_congr fun o4 h4 => ?_
  have e4 := (addRecsFromBytes_recs .gene _ _ _ h4).2
  rw [annotateSeq_append, Res.bind_assoc, ← addRecsFromBytes_eq_annotateSeq .omim f.omim o4 (hnd .omim)
    (hfresh _ ((e4 .omim (by decide)).trans (hempty _)))]
  refine Res.bind_congr fun o5 h5 => ?_
  have e5 := (addRecsFromBytes_recs .omim _ _ _ h5).2
  rw [← addRecsFromBytes_eq_annotateSeq .orpha f.orpha o5 (hnd .orpha)
    (hfresh _ ((e5 .orpha (by decide)).trans ((e4 .orpha (by decide)).trans (hempty _))))]

theorem fileAOps_recs (f : RawFacts) (hnd : ∀ k, ((factRecs f k).map (·.id)).Nodup) (o b : Onto)
    (hempty : ∀ k, o.recs k = []) (h : annotateSeq (fileAOps f) o = .ok b) (k : Kind) :
    b.recs k = (factRecs f k).map normRec := by
  have hS := sections_eq f hnd Res.ok o hempty
  rw [h] at hS
  obtain ⟨o4, h4, hS⟩ := Res.bind_eq_ok.1 hS
  obtain ⟨o5, h5, hS⟩ := Res.bind_eq_ok.1 hS
  obtain ⟨o6, h6, hS⟩ := Res.bind_eq_ok.1 hS
  cases hS
  obtain ⟨g4, n4⟩ := addRecsFromBytes_recs .gene _ _ _ h4
  obtain ⟨g5, n5⟩ := addRecsFromBytes_recs .omim _ _ _ h5
  obtain ⟨g6, n6⟩ := addRecsFromBytes_recs .orpha _ _ _ h6
  have happ : ∀ k, ((factRecs f k).map normRec).foldl putR [] = (factRecs f k).map normRec := fun k =>
    foldl_putR_fresh _ [] (by rw [List.nil_append, List.map_map]; exact hnd k)
  cases k
  · rw [n6 .gene (by decide), n5 .gene (by decide), g4, hempty]; exact happ .gene
  · rw [n6 .omim (by decide), g5, n4 .omim (by decide), hempty]; exact happ .omim
  · rw [g6, n5 .orpha (by decide), n4 .orpha (by decide), hempty]; exact happ .orpha

/-- On records whose parent records and listed terms name terms of the file and whose record ids are
distinct per section, the builder steps of `from_bytes` ARE the checked-API program over the records in
file order, whatever the outcome of its last two steps. -/
theorem loadFacts_eq_run (g : RawFacts) (hb : BareRecs g) {a oc : Onto}
    (T : TermRun (fileFacts g) (fileEdges g) a oc)
    (hpc : ∀ r ∈ g.parents, IsTerm g r.1 ∧ ∀ p ∈ r.2, IsTerm g p)
    (hnd : ∀ k, ((factRecs g k).map (·.id)).Nodup)
    (hrt : ∀ k, ∀ r ∈ factRecs g k, ∀ d ∈ r.hpos, IsTerm g d) :
    Onto.loadFacts 3 g =
      mapR (setV g.version) ((runA (fileAOps g) oc).calcIc.bind fun o7 => o7.buildWithDefaults) := by
  have hhead : (Onto.addTermsFold g.terms (setV g.version {})).bind (Onto.addParentRecs g.parents) =
      some (setV g.version a) := by
    rw [loadTerms_eq_runB g.terms g.parents g.version hb hpc]
    exact congrArg (Option.map (setV g.version)) T.run
  obtain ⟨o1, h1, h2⟩ := Option.bind_eq_some_iff.1 hhead
  have h1' : Onto.addTermsFold g.terms { version := g.version } = some o1 := h1
  have hempty : ∀ k, (setV g.version oc).recs k = [] := fun k =>
    (recs_setV _ oc k).trans (T.connected.recs_nil k)
  have htail := T.load_tail (fileAOps g) g.version (known_fileAOps g hrt)
  rw [connectAll_setV, T.connect, mapR_ok, Res.bind_ok] at htail
  simp only [Onto.loadFacts, show ¬ (3 = 1) by decide, show 3 > 2 by decide, if_true, if_false, h1', h2,
    connectAll_setV, T.connect, mapR_ok, Res.bind_ok]
  exact (sections_eq g hnd _ (setV g.version oc) hempty).trans htail

/-- **`from_bytes` is a builder run.** On well-formed records (`WFRecords`, term ids below 10^7, term
records carrying nothing but id / name / flags) the builder steps of `from_bytes` succeed and return the
ontology `d` of the checked-API builder program over the same records in file order, with the release
version of the file. -/
theorem loadFacts_ok (g : RawFacts) (hb : BareRecs g) (hsmall : ∀ t ∈ g.terms, t.id < maxId)
    (W : WFRecords g) :
    ∃ a oc r d, BuilderRun (fileFacts g) (fileEdges g) (fileAOps g) a oc r d ∧
      Onto.loadFacts 3 g = .ok (setV g.version d) := by
  obtain ⟨a, oc, r, d, R⟩ := builderRun_exists (fileFacts g) (fileEdges g) (fileAOps g)
    (by intro x hx; obtain ⟨t, ht, rfl⟩ := List.mem_map.1 hx; exact hsmall t ht)
    W.acyclicEdges W.countsFit ((isTerm_iff g 1).1 W.root) ((isTerm_iff g _).1 W.phenotype)
  refine ⟨a, oc, r, d, R, ?_⟩
  rw [loadFacts_eq_run g hb R.toTermRun W.parentsClosed W.recIds W.recTerms, R.ic, Res.bind_ok, R.build, mapR_ok]

/-- two well-formed record sets that are permutations of each other inside the sections load to
ontologies with equal lookups, and both loads are builder runs (hence `Reachable`) -/
theorem loadFacts_perm (f g : RawFacts) (hbf : BareRecs f) (hbg : BareRecs g)
    (hsmall : ∀ t ∈ f.terms, t.id < maxId) (W : WFRecords f) (hp : FactsPerm f g) :
    ∃ o1 o2, Onto.loadFacts 3 f = .ok o1 ∧ Onto.loadFacts 3 g = .ok o2 ∧ SameLookups o1 o2 ∧
      Reachable o1 ∧ Reachable o2 := by
  have Wg := W.perm hp
  obtain ⟨a1, oc1, r1, d1, R1, l1⟩ := loadFacts_ok f hbf hsmall W
  obtain ⟨a2, oc2, r2, d2, R2, l2⟩ := loadFacts_ok g hbg (fun t ht => hsmall t (hp.terms.mem_iff.2 ht)) Wg
  have S := (builderRun_perm R1 R2 (hp.terms.map _) (edgesOf_perm hp.parents) (fileAOps_perm hp)
    W.functional (fileNameOf f) W.names).setV f.version
  rw [← hp.version] at l2
  exact ⟨_, _, l1, l2, S, reachable_setV R1.reachable _, reachable_setV R2.reachable _⟩

/-! ### the round trip: the records of a `Reachable` ontology rebuild it -/

theorem isTerm_iff_getT (f : RawFacts) (j : Nat) : IsTerm f j ↔ (getT f.terms j).isSome := by
  rw [getT_isSome_iff]; simp [IsTerm]

theorem ids_of_core {ts ts' : List Term} (h : ts'.map core = ts.map core) :
    ts'.map (·.id) = ts.map (·.id) := by
  have h2 := congrArg (List.map (fun c : Nat × List Char × Bool × Option Nat => c.1)) h
  simpa [List.map_map, Function.comp_def, core] using h2

/-- the term of `o` as the reload has it after the parents section; the numbers of `stage2` / `3` / `6` are
those of the local states `o2`, `o3`, `o6` of `Onto.loadFacts` (`HpoModel/Load.lean`) -/
def stage2 (t : Term) : Term :=
  { id := t.id, name := truncName t.name, parents := t.parents, children := t.children,
    obsolete := t.obsolete, replacement := t.replacement }
/-- … after `connect_all_terms` -/
def stage3 (t : Term) : Term := { stage2 t with allParents := t.allParents }
/-- … after the gene / disease sections -/
def stage6 (t : Term) : Term := { stage3 t with genes := t.genes, omim := t.omim, orpha := t.orpha }

/-- … and `calculate_information_content` completes it to the term of `o` with the name cut, the stored
pairs of `o` being those of its own counts -/
theorem icAll_stage6 {o b : Onto} (h : Reachable o) {t : Term} (ht : t ∈ o.terms)
    (hlen : ∀ k, (b.recs k).length = (o.recs k).length) : icAll b (stage6 t) = truncTerm t := by
  have i1 := h.ic t ht .gene
  have i2 := h.ic t ht .omim
  have i3 := h.ic t ht .orpha
  have l1 := hlen .gene
  have l2 := hlen .omim
  have l3 := hlen .orpha
  simp only [Term.ic, Term.ann, Onto.recs] at i1 i2 i3 l1 l2 l3
  cases t
  simp only [icAll, stage6, stage3, stage2, truncTerm, Term.setIc, l1, l2, l3] at i1 i2 i3 ⊢
  simp only [i1, i2, i3]

section
variable {o : Onto} (h : Reachable o) {f : RawFacts} (hp : FactsPerm (factsOf o) f)
include h hp

theorem getT_factsPerm (j : Nat) : getT f.terms j = (getT o.terms j).map termFact := by
  have hndF : ((termFacts o.terms).map (·.id)).Nodup := by rw [map_id_termFacts]; exact h.nodup
  rw [← getT_perm hp.terms hndF j]; exact getT_termFacts o.terms j

omit h in
theorem mem_terms_factsPerm {t : Term} (ht : t ∈ f.terms) : ∃ t0 ∈ o.terms, t = termFact t0 :=
  mem_termFacts.1 (hp.terms.mem_iff.2 ht)

omit h in
theorem bareRecs_factsPerm : BareRecs f := by
  intro t ht; obtain ⟨t0, _, rfl⟩ := mem_terms_factsPerm hp ht; rfl

theorem small_terms_factsPerm : ∀ t ∈ f.terms, t.id < maxId := by
  intro t ht; obtain ⟨t0, ht0, rfl⟩ := mem_terms_factsPerm hp ht; exact h.small t0 ht0

theorem nodup_terms_factsPerm : (f.terms.map (·.id)).Nodup := by
  have := (hp.terms.map (fun t : Term => t.id)).nodup_iff
  rw [show (factsOf o).terms = termFacts o.terms from rfl, map_id_termFacts] at this
  exact this.1 h.nodup

theorem isTerm_factsPerm (j : Nat) : IsTerm f j ↔ (getT o.terms j).isSome := by
  rw [isTerm_iff_getT, getT_factsPerm h hp, Option.isSome_map]

theorem mem_fileEdges_factsPerm (x j : Nat) : (x, j) ∈ fileEdges f ↔ x ∈ parentsOf o.terms j := by
  rw [fileEdges, mem_edgesOf]
  constructor
  · rintro ⟨ps, hm, hx⟩
    obtain ⟨t, ht, he⟩ := mem_parentFacts.1 (hp.parents.mem_iff.2 hm)
    obtain ⟨rfl, rfl⟩ := Prod.mk.inj he
    rw [parentsOf_eq (getT_of_mem_nodup h.nodup ht)]; exact hx
  · intro hx
    cases hg : getT o.terms j with
    | none => rw [parentsOf_none hg] at hx; cases hx
    | some t =>
      rw [parentsOf_eq hg] at hx
      refine ⟨t.parents, hp.parents.mem_iff.1 (mem_parentFacts.2 ⟨t, getT_mem hg, ?_⟩), hx⟩
      rw [getT_id hg]

theorem parentsClosed_factsPerm : ∀ r ∈ f.parents, IsTerm f r.1 ∧ ∀ p ∈ r.2, IsTerm f p := by
  intro r hr
  obtain ⟨t, ht, rfl⟩ := mem_parentFacts.1 (hp.parents.mem_iff.2 hr)
  have hg := getT_of_mem_nodup h.nodup ht
  refine ⟨(isTerm_factsPerm h hp _).2 (by rw [hg]; rfl), fun p hp' => (isTerm_factsPerm h hp p).2 ?_⟩
  exact h.closedP t.id p (by rw [parentsOf_eq hg]; exact hp')

/-- the term level of the run over the records: the empty ontology with the terms of `o`, in file
order, with names cut and neither links nor information content -/
theorem termRun_refine {a oc : Onto} (T : TermRun (fileFacts f) (fileEdges f) a oc) :
    oc = { terms := oc.terms } ∧ (oc.terms.map (·.id)).Nodup ∧
      ∀ j, getT oc.terms j = (getT o.terms j).map stage3 := by
  have C := T.connected
  have hedge := mem_fileEdges_factsPerm h hp
  have hsrc : ∀ x j, x ∈ parentsOf o.terms j → (getT o.terms j).isSome :=
    fun x j hx => isSome_of_mem_getD hx
  have hpres : ∀ j, (getT oc.terms j).isSome ↔ (getT o.terms j).isSome := fun j =>
    (T.present j).trans ((isTerm_iff f j).symm.trans (isTerm_factsPerm h hp j))
  -- parents and children: the edges of the records between present terms, as in `o`
  have hP : ∀ j, parentsOf a.terms j = parentsOf o.terms j := fun j =>
    eq_of_sorted_of_mem_iff _ _ (C.pre.sortedP j) (h.sortedP j) fun x => by
      rw [(T.lookup j).2.1 x, hedge, hpres, hpres]
      exact ⟨(·.1), fun hx => ⟨hx, h.closedP j x hx, hsrc x j hx⟩⟩
  have hC : ∀ j, childrenOf a.terms j = childrenOf o.terms j := fun j =>
    eq_of_sorted_of_mem_iff _ _ (C.pre.sortedC j) (h.sortedC j) fun x => by
      rw [(T.lookup j).2.2 x, hedge, hpres, hpres, h.inverse]
      exact ⟨(·.1), fun hx => ⟨hx, hsrc j x hx, h.closedP x j hx⟩⟩
  -- the other fields: those of the one record with the id
  have hg2 : ∀ j, getT a.terms j = (getT o.terms j).map stage2 := fun j => by
    refine option_eq_map ((C.upd.isSome j).symm.trans (Bool.eq_iff_iff.2 (hpres j))) fun t u hg hgu => ?_
    obtain ⟨x, hx, hxj, hfu⟩ := (T.lookup j).1 u hgu
    obtain ⟨t', ht', rfl⟩ := List.mem_map.1 hx
    obtain ⟨t0, ht0, rfl⟩ := mem_terms_factsPerm hp ht'
    have ht : getT o.terms j = some t0 := hxj ▸ getT_of_mem_nodup h.nodup ht0
    cases hg.symm.trans ht
    have hp := hP j
    have hc := hC j
    rw [parentsOf_eq hgu, parentsOf_eq hg] at hp
    rw [childrenOf_eq hgu, childrenOf_eq hg] at hc
    exact term_ext u (stage2 t) ((getT_id hgu).trans (getT_id hg).symm) hfu hp hc
  -- `connect_all_terms`: the ancestors of `o`, both being the closure of the same relation
  have hisA : isA a = isA o := funext fun x => funext fun y => by rw [isA, isA, hP]
  have hall : ∀ j, allOf oc.terms j = allOf o.terms j := fun j =>
    eq_of_sorted_of_mem_iff _ _ (C.sorted j) (h.sortedA j) fun x => by
      rw [C.closure, h.closure, hisA]
  refine ⟨by rw [C.rest, C.init], C.nodup, fun j => ?_⟩
  rw [C.upd.2 j, hg2 j, hall j]
  cases hg : getT o.terms j with
  | none => rfl
  | some t => simp [allOf_eq hg, stage3]

/-- **The refinement step.** For a `Reachable` ontology, the builder steps of `from_bytes` on the
records `as_bytes` writes — in any order inside the five sections — are a run of the checked Builder
API over these records that succeeds (no error, no panic, no divergence) and returns an ontology with
the same observations up to the documented name cut.

The load is the builder program by `loadFacts_eq_run`; its intermediate states are compared with `o`
stage by stage: both satisfy the same characterisations (C01, C02, C03, C19) and all groups are
canonical (strictly ascending), hence equal. -/
theorem loadFacts_refine_run :
    ∃ a oc r d, BuilderRun (fileFacts f) (fileEdges f) (fileAOps f) a oc r d ∧
      Onto.loadFacts 3 f = .ok (setV f.version d) ∧ Loaded o f (setV f.version d) := by
  have hterm := isTerm_factsPerm h hp
  have hR := recFacts_ok o h f hp
  have hrt : ∀ k, ∀ r ∈ factRecs f k, ∀ d ∈ r.hpos, IsTerm f d :=
    fun k r hr d hd => (hterm d).2 ((hR k).resolve r hr d hd)
  -- the term level is a run of the checked API; the rank is the number of ancestors
  obtain ⟨a, oc, T⟩ := termRun_exists (fileFacts f) (fileEdges f)
    (by intro x hx; obtain ⟨t, ht, rfl⟩ := List.mem_map.1 hx; exact small_terms_factsPerm h hp t ht)
    ⟨fun j => (allOf o.terms j).length,
      fun e he => h.built.rank_lt e.2 e.1 ((mem_fileEdges_factsPerm h hp e.1 e.2).1 he)⟩
  obtain ⟨hoc, hnd3, hg3⟩ := termRun_refine h hp T
  -- the annotation history: the record maps are the sections, the links those of `o`
  obtain ⟨rank, S⟩ := connected_annState T.connected
  have H := (S.run (fileAOps f)).inv
  have hcore := (runA_frame (fileAOps f) oc).lookup coreOf coreOf_setAnn
  have hrecs6 := fileAOps_recs f (fun k => (hR k).nodup) oc _ T.connected.recs_nil
    (T.annotateSeq_ok (fileAOps f) (known_fileAOps f hrt))
  have hgetR : ∀ k r, getR ((runA (fileAOps f) oc).recs k) r = (getR (o.recs k) r).map (truncRec k) := by
    intro k r; rw [hrecs6]; exact (hR k).lookup r
  have hhp : ∀ k r, hposOf k (runA (fileAOps f) oc) r = hposOf k o r := by
    intro k r; simp only [hposOf, hgetR]
    cases getR (o.recs k) r <;> simp [truncRec_hpos]
  have hall : ∀ j, ancOf oc j = allOf o.terms j := fun j =>
    field_congr (hg3 j) (fun _ => rfl)
  have hann : ∀ k x, annOf k (runA (fileAOps f) oc).terms x = annOf k o.terms x := by
    intro k x
    apply eq_of_sorted_of_mem_iff _ _ (H.sorted k x) (h.sortedAnn k x)
    intro r
    rw [H.linked k x r, h.linked k x r]
    simp only [hhp, Up, hall, eq_comm]
  have hg6 : ∀ j, getT (runA (fileAOps f) oc).terms j = (getT o.terms j).map stage6 := by
    intro j
    have hc := hcore j
    rw [hg3] at hc
    refine option_eq_map (by simpa using congrArg Option.isSome hc) ?_
    intro t u hg hgu
    rw [hg, hgu] at hc
    have hN := fun k => hann k j
    simp only [annOf_eq hgu, annOf_eq hg] at hN
    exact term_ext_ann u (stage6 t) (Option.some.inj hc) (hN .gene) (hN .omim) (hN .orpha)
  have hnd6 : ((runA (fileAOps f) oc).terms.map (·.id)).Nodup := by rw [runA_ids]; exact hnd3
  have hlenR : ∀ k, ((runA (fileAOps f) oc).recs k).length = (o.recs k).length := by
    intro k; rw [hrecs6, List.length_map]; exact (hR k).length
  -- information content: the counts are those of `o`
  obtain ⟨ts7, hic⟩ := calcIc_total (runA (fileAOps f) oc) (by
    intro u hu k
    have hgu := getT_of_mem_nodup hnd6 hu
    rw [hg6] at hgu
    obtain ⟨t, hg, rfl⟩ := Option.map_eq_some_iff.1 hgu
    rw [hlenR]
    cases k <;> exact h.icFits t (getT_mem hg) _)
  have ht7 : ts7 = (runA (fileAOps f) oc).terms.map (icAll (runA (fileAOps f) oc)) := (calcIc_ok _ _ hic).1
  have hg7 : ∀ j, getT ts7 j = (getT o.terms j).map truncTerm := by
    intro j
    rw [ht7, getT_map _ _ (icAll_id _), hg6]
    cases hg : getT o.terms j with
    | none => simp only [Option.map_none]
    | some t => rw [Option.map_some, Option.map_some, Option.map_some, icAll_stage6 h (getT_mem hg) hlenR]
  -- default groups: the children of `o`
  have hsmall7 : ∀ j, (getT ts7 j).isSome → j < maxId := by
    intro j hj
    rw [hg7, Option.isSome_map] at hj
    exact h.built.smallT j hj
  have hch : ∀ j, childrenOf ts7 j = childrenOf o.terms j := fun j =>
    field_congr (hg7 j) (fun _ => rfl)
  have hbd := (buildWithDefaults_ok_iff ({ runA (fileAOps f) oc with terms := ts7 } : Onto) _ hsmall7).2
    ⟨by rw [hg7, Option.isSome_map]; exact h.roots.1, by rw [hg7, Option.isSome_map]; exact h.roots.2, rfl⟩
  have hload := loadFacts_eq_run f (bareRecs_factsPerm hp) T (parentsClosed_factsPerm h hp)
    (fun k => (hR k).nodup) hrt
  rw [hic, Res.bind_ok, hbd, mapR_ok] at hload
  have R : BuilderRun _ _ _ a oc _ _ := ⟨T, hic, hbd⟩
  refine ⟨a, oc, _, _, R, hload, ?_⟩
  constructor
  · exact hp.version.symm
  · show (runA (fileAOps f) oc).slot0 = placeholder
    rw [(runA_frame _ oc).rest, hoc]
  · exact ids_of_core (loadFacts_terms 3 (by decide) f _ (small_terms_factsPerm h hp)
      (nodup_terms_factsPerm h hp) hload).1
  · exact hg7
  · intro k
    rw [recs_setV, R.final.1 k, hrecs6, List.map_map]; rfl
  · intro k r
    rw [recs_setV, R.final.1 k]; exact hgetR k r
  · show defCategories ts7 = o.categories
    rw [h.categories]; simp only [defCategories, hch]
  · show defModifier ts7 = o.modifier
    rw [h.modifier]; simp only [defModifier, hch]

end

/-- … in the form C07 / C08 use: the load succeeds and shows the observations of `o` -/
theorem loadFacts_refine (o : Onto) (h : Reachable o) (f : RawFacts)
    (hp : FactsPerm (factsOf o) f) : ∃ o', Onto.loadFacts 3 f = .ok o' ∧ Loaded o f o' := by
  obtain ⟨_, _, _, d, _, hl, L⟩ := loadFacts_refine_run h hp
  exact ⟨_, hl, L⟩

/-- … from the bytes: every file with the records of `o`, in any order inside the sections -/
theorem decodeBytes_refine (o : Onto) (hr : Reachable o) (g : RawFacts) (hg : FileOK 3 g)
    (hp : FactsPerm (factsOf o) g) : ∃ o', decodeBytes (encodeRaw 3 g) = .ok o' ∧ ObsTrunc o o' := by
  have hperm := projFacts_perm 3 hp
  rw [projFacts_factsOf] at hperm
  obtain ⟨o', hl, L⟩ := loadFacts_refine o hr (projFacts 3 g) hperm
  exact ⟨o', (decodeBytes_encodeRaw hg).trans hl, L.obs hr hperm⟩

/-- With the records in the order they were written, the reloaded ontology is `truncOnto o`
literally: same slots in the same order, same record lists, every field equal (names cut). -/
theorem loadFacts_factsOf (o : Onto) (h : Reachable o) :
    Onto.loadFacts 3 (factsOf o) = .ok (truncOnto o) := by
  obtain ⟨o', hl, L⟩ := loadFacts_refine o h (factsOf o) (FactsPerm.refl _)
  rw [hl]
  congr 1
  apply onto_ext
  · have hids : o'.terms.map (·.id) = (truncOnto o).terms.map (·.id) := by
      rw [L.termIds, truncOnto_ids]; exact map_id_termFacts o.terms
    exact list_eq_of_getT _ _ hids (by rw [hids, truncOnto_ids]; exact h.nodup)
      fun j => (L.terms j).trans (getT_truncOnto o j).symm
  · exact L.slot0
  · intro k
    have hids : (o'.recs k).map (·.id) = ((truncOnto o).recs k).map (·.id) := by
      rw [L.recIds k, factRecs_factsOf, truncOnto_recs]
    exact list_eq_of_getR _ _ hids (by rw [hids, truncOnto_recIds]; exact h.recNodup k)
      fun j => (L.recs k j).trans (getR_truncOnto o k j).symm
  · exact L.version
  · exact L.categories
  · exact L.modifier

/-- The class is closed under the round trip: what `from_bytes(as_bytes(o))` returns is `Reachable`
again (so the theorems apply to a round trip of a round trip, and to every ontology read from a
file that `as_bytes` wrote) — it is the result of a builder run. -/
theorem reachable_truncOnto (o : Onto) (h : Reachable o) : Reachable (truncOnto o) := by
  obtain ⟨_, _, _, d, R, hl, _⟩ := loadFacts_refine_run h (FactsPerm.refl (factsOf o))
  rw [loadFacts_factsOf o h] at hl
  rw [Res.ok.inj hl]
  exact reachable_setV R.reachable _

end Binary
end Hpo
