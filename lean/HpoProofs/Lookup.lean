import HpoProofs.BuilderInv
import HpoModel.Lookup
/-! For C10. `insertAll`: a run of `Arena::insert` calls and the lookups after it (`Onto.addTermsFold` of
`HpoModel/Load.lean` on the bare list of terms). `slotOf` / `Rel`: the
code's two-vector arena (`Arena2`: a table from ids to the slots of a term vector) represents the
association-list arena. `isInfix` is `List.IsInfix`. -/
namespace Hpo.C10

/-- inserting a sequence of terms; `none` = a panic (some id ≥ 10^7) -/
def insertAll : List Term → List Term → Option (List Term)
  | [], ts => some ts
  | x :: xs, ts => (arenaInsert ts x).bind (insertAll xs)

theorem getT_insertAll : ∀ (xs : List Term) {ts0 ts : List Term}, insertAll xs ts0 = some ts →
    (∀ j, getT ts j = (getT ts0 j).or (xs.find? (fun x => x.id = j))) ∧ ∀ x ∈ xs, x.id < maxId := by
  intro xs
  induction xs with
  | nil => intro ts0 ts h; cases h; simp
  | cons x xs ih =>
    intro ts0 ts h
    obtain ⟨ts1, h1, h2⟩ := Option.bind_eq_some_iff.1 h
    obtain ⟨ih1, ih2⟩ := ih h2
    refine ⟨fun j => ?_, fun y hy => ?_⟩
    · rw [ih1 j, getT_arenaInsert h1 j, Option.or_assoc, List.find?_cons]
      by_cases hx : x.id = j <;> simp [hx]
    · rcases List.mem_cons.1 hy with rfl | hy
      · exact (arenaInsert_eq_some h1).1
      · exact ih2 y hy

/-- 1-based slot of the first term with the id, 0 if absent -/
def slotOf : List Term → Nat → Nat
  | [], _ => 0
  | t :: ts, i => if t.id = i then 1 else (match slotOf ts i with
    | 0 => 0
    | n + 1 => n + 2)

/-- representation relation between the code's layout and the abstract arena -/
structure Rel (M : Nat) (a : Arena2) (ts : List Term) : Prop where
  terms : a.terms = placeholder :: ts
  size : a.ids.length = M
  table : ∀ id, id < M → a.ids[id]? = some (slotOf ts id)

theorem Rel.beyond {M : Nat} {a : Arena2} {ts : List Term} (h : Rel M a ts) {id : Nat} (hid : M ≤ id) :
    a.ids[id]? = none :=
  List.getElem?_eq_none (h.size.symm ▸ hid)

theorem slotOf_zero_iff (ts : List Term) (i : Nat) : slotOf ts i = 0 ↔ getT ts i = none := by
  fun_induction slotOf ts i with
  | case1 => simp [getT]
  | case2 => simp [getT]
  | case3 t ts i h h0 ih => simpa [getT, h] using ih.1 h0
  | case4 t ts i h n hn ih => simpa [getT, h, hn] using ih

theorem slotOf_le (ts : List Term) (i : Nat) : slotOf ts i ≤ ts.length := by
  fun_induction slotOf ts i with
  | case1 => exact Nat.le_refl 0
  | case2 => simp
  | case3 => simp
  | case4 t ts i h n hn ih => rw [hn] at ih; simpa using ih

theorem get_slot (ts : List Term) (i : Nat) (p : Term) (h : slotOf ts i ≠ 0) :
    (p :: ts)[slotOf ts i]? = getT ts i := by
  fun_induction slotOf ts i with
  | case1 => exact absurd rfl h
  | case2 => simp [getT]
  | case3 => exact absurd rfl h
  | case4 t ts i hti n hn ih => rw [getT, if_neg hti, ← ih (hn ▸ n.succ_ne_zero), hn]; rfl

theorem slotOf_append (ts : List Term) (t : Term) (i : Nat) :
    slotOf (ts ++ [t]) i =
      if slotOf ts i ≠ 0 then slotOf ts i else if t.id = i then ts.length + 1 else 0 := by
  fun_induction slotOf ts i with
  | case1 => simp [slotOf]
  | case2 => simp [slotOf]
  | case3 u ts i h h0 ih => by_cases hti : t.id = i <;> simp [slotOf, h, ih, h0, hti]
  | case4 u ts i h n hn ih => simp [slotOf, h, ih, hn]

theorem isInfix_iff_infix (q l : List Char) : isInfix q l = true ↔ q <:+: l := by
  induction l with
  | nil => simp [isInfix]
  | cons c cs ih => simp [isInfix, ih, List.infix_cons_iff]

theorem isInfix_iff (q l : List Char) : isInfix q l = true ↔ ∃ s t, l = s ++ q ++ t :=
  (isInfix_iff_infix q l).trans (exists_congr fun _ => exists_congr fun _ => eq_comm)

end Hpo.C10
