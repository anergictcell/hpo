import HpoModel.Matrix
/-! Laws of the matrix iterators (`HpoModel/Matrix.lean`), for any element type and any shape
`r × c` (core Lean only).  A row-major matrix is the concatenation of its rows: `rows()` gives the
rows back (`rowList_flatten`), `cols()` walks the data with stride `c` (`stepGo_getElem?`), i.e.
takes the `j`-th element of every row (`stepGo_flatten`). -/
namespace Hpo
namespace Matrix

variable {F : Type}

/-- the row loop, started behind a prefix `pre` of whole rows, yields the remaining rows -/
theorem rowsGo_flatten (r c : Nat) (hc : 0 < c) :
    ∀ (rows : List (List F)) (pre : List F) (fuel : Nat), (∀ row ∈ rows, row.length = c) →
      pre.length + rows.length * c = r * c → rows.length < fuel →
      rowsGo ⟨r, c, pre ++ rows.flatten⟩ fuel pre.length = some rows := by
  intro rows
  induction rows with
  | nil =>
    intro pre fuel _ hlen hf
    obtain ⟨f, rfl⟩ := Nat.exists_eq_succ_of_ne_zero (Nat.ne_of_gt hf)
    rw [List.length_nil, Nat.zero_mul, Nat.add_zero] at hlen
    rw [rowsGo, if_pos (Nat.le_of_eq hlen.symm)]
  | cons row rows ih =>
    intro pre fuel h hlen hf
    obtain ⟨f, rfl⟩ := Nat.exists_eq_succ_of_ne_zero (Nat.ne_of_gt (Nat.zero_lt_of_lt hf))
    have hrow : row.length = c := h row List.mem_cons_self
    rw [List.length_cons, Nat.add_mul, Nat.one_mul, Nat.add_comm _ c, ← Nat.add_assoc] at hlen
    have hih := ih (pre ++ row) f (fun x hx => h x (List.mem_cons_of_mem _ hx))
      (by rw [List.length_append, hrow]; exact hlen) (Nat.lt_of_succ_lt_succ hf)
    rw [List.length_append, hrow, List.append_assoc] at hih
    -- the loop neither stops here nor runs over the end of the data
    have h1 : ¬ r * c ≤ pre.length := by
      rw [← hlen]; exact Nat.not_le.2 (Nat.lt_add_right _ (Nat.lt_add_of_pos_right hc))
    have h2 : ¬ pre.length + c > (pre ++ (row ++ rows.flatten)).length := by
      rw [List.length_append, List.length_append, hrow, ← Nat.add_assoc]
      exact Nat.not_lt.2 (Nat.le_add_right _ _)
    rw [rowsGo, if_neg h1, List.flatten_cons, if_neg h2, hih, Option.map_some, List.drop_left,
      List.take_left' hrow]

theorem rowList_flatten {c : Nat} (hc : 0 < c) (rows : List (List F))
    (h : ∀ row ∈ rows, row.length = c) : rowList ⟨rows.length, c, rows.flatten⟩ = some rows :=
  rowsGo_flatten rows.length c hc rows [] _ h (Nat.zero_add _)
    (Nat.lt_succ_of_le (Nat.le_mul_of_pos_right _ hc))

theorem rowList_zero_cols (r : Nat) (data : List F) : rowList ⟨r, 0, data⟩ = some [] := by
  simp [rowList, rowsGo]

theorem flatten_slices (c : Nat) : ∀ (r : Nat) (data : List F), data.length = r * c →
    ((List.range r).map fun i => (data.drop (i * c)).take c).flatten = data := by
  intro r
  induction r with
  | zero =>
    intro data h
    rw [Nat.zero_mul] at h
    rw [List.eq_nil_of_length_eq_zero h]; rfl
  | succ r ih =>
    intro data h
    have ih := ih (data.drop c) (by
      rw [List.length_drop, h, Nat.add_mul, Nat.one_mul, Nat.add_sub_cancel])
    simp only [List.drop_drop] at ih
    rw [List.range_succ_eq_map, List.map_cons, List.map_map, List.flatten_cons, Nat.zero_mul,
      List.drop_zero]
    simp only [Function.comp_def, Nat.succ_mul, Nat.add_comm _ c]
    rw [ih, List.take_append_drop]

theorem slice_le {r c : Nat} {data : List F} (h : data.length = r * c) {i : Nat} (hi : i < r) :
    i * c + c ≤ data.length := by
  rw [h, ← Nat.succ_mul]; exact Nat.mul_le_mul_right c hi

theorem index_lt {r c : Nat} {data : List F} (h : data.length = r * c) {i j : Nat} (hi : i < r)
    (hj : j < c) : i * c + j < data.length :=
  Nat.lt_of_lt_of_le (Nat.add_lt_add_left hj _) (slice_le h hi)

theorem length_slice {r c : Nat} {data : List F} (h : data.length = r * c) {i : Nat} (hi : i < r) :
    ((data.drop (i * c)).take c).length = c := by
  rw [List.length_take, List.length_drop]
  exact Nat.min_eq_left (Nat.le_sub_of_add_le' (slice_le h hi))

theorem rowList_eq (r c : Nat) (data : List F) (hlen : data.length = r * c) (hc : 0 < c) :
    rowList ⟨r, c, data⟩ = some ((List.range r).map fun i => (data.drop (i * c)).take c) := by
  have := rowList_flatten hc ((List.range r).map fun i => (data.drop (i * c)).take c)
    (List.forall_mem_map.2 fun i hi => length_slice hlen (List.mem_range.1 hi))
  rwa [flatten_slices c r data hlen, List.length_map, List.length_range] at this

theorem stepGo_getElem? (c : Nat) (hc : 0 < c) :
    ∀ (l : List F) (k i : Nat), (stepGo c k l)[i]? = l[k + i * c]? := by
  intro l
  induction l with
  | nil => intro k i; simp [stepGo]
  | cons x xs ih =>
    intro k i
    cases k with
    | zero =>
      cases i with
      | zero => simp [stepGo]
      | succ i =>
        simp only [stepGo, List.getElem?_cons_succ, ih]
        have : 0 + (i + 1) * c = (c - 1 + i * c) + 1 := by
          rw [Nat.add_mul, Nat.one_mul]; omega
        rw [this, List.getElem?_cons_succ]
    | succ k =>
      simp only [stepGo, ih]
      rw [Nat.add_right_comm, List.getElem?_cons_succ]

theorem stepGo_flatten {α : Type} {c j : Nat} (f : α → List F) (g : α → F) (l : List α)
    (h : ∀ x ∈ l, (f x).length = c ∧ (f x)[j]? = some (g x)) :
    stepGo c j (l.map f).flatten = l.map g := by
  cases l with
  | nil => cases j <;> rfl
  | cons x₀ xs =>
    have hj : j < c := by
      have := h x₀ List.mem_cons_self
      rw [← this.1]
      exact (List.getElem?_eq_some_iff.1 this.2).1
    apply List.ext_getElem?
    intro i
    rw [stepGo_getElem? c (Nat.zero_lt_of_lt hj)]
    generalize x₀ :: xs = l at h
    induction l generalizing i with
    | nil => rfl
    | cons x xs ih =>
      have hx := h x List.mem_cons_self
      rw [List.map_cons, List.flatten_cons, List.map_cons]
      cases i with
      | zero =>
        rw [Nat.zero_mul, Nat.add_zero, List.getElem?_append_left (by rw [hx.1]; exact hj), hx.2]
        rfl
      | succ i =>
        rw [List.getElem?_append_right (by rw [hx.1, Nat.add_mul]; omega), hx.1, Nat.add_mul,
          Nat.one_mul, ← Nat.add_assoc, Nat.add_sub_cancel, List.getElem?_cons_succ]
        exact ih i fun y hy => h y (List.mem_cons_of_mem _ hy)

theorem colsGo_eq (m : Matrix F) : ∀ (n j : Nat),
    colsGo m n j = (List.range' j n).map fun j' => stepGo m.cols j' m.data := by
  intro n
  induction n with
  | zero => intro j; simp [colsGo]
  | succ n ih => intro j; simp [colsGo, ih, List.range'_succ]

theorem colList_eq (m : Matrix F) :
    colList m = (List.range m.cols).map fun j => stepGo m.cols j m.data := by
  simp [colList, colsGo_eq, List.range_eq_range']

/-! ### a matrix given as a table `h` over row labels `l` and column labels `js` -/

theorem rowList_table {α β : Type} (h : α → β → F) (l : List α) (js : List β) (hjs : js ≠ []) :
    rowList ⟨l.length, js.length, (l.map fun x => js.map (h x)).flatten⟩ =
      some (l.map fun x => js.map (h x)) := by
  have := rowList_flatten (List.length_pos_iff.2 hjs) (l.map fun x => js.map (h x)) (by simp)
  rwa [List.length_map] at this

theorem colList_table {α β : Type} (h : α → β → F) (l : List α) (js : List β) :
    colList ⟨l.length, js.length, (l.map fun x => js.map (h x)).flatten⟩ =
      js.map fun y => l.map fun x => h x y := by
  rw [colList_eq]
  apply List.ext_getElem?
  intro j
  rw [List.getElem?_map, List.getElem?_map]
  rcases Nat.lt_or_ge j js.length with hj | hj
  · rw [List.getElem?_range hj, List.getElem?_eq_getElem hj, Option.map_some, Option.map_some]
    exact congrArg some (stepGo_flatten _ _ l fun x _ =>
      ⟨List.length_map _, by rw [List.getElem?_map, List.getElem?_eq_getElem hj]; rfl⟩)
  · rw [List.getElem?_eq_none (by simpa using hj), List.getElem?_eq_none hj]; rfl

theorem length_stepGo {r c : Nat} {data : List F} (h : data.length = r * c) {j : Nat} (hj : j < c) :
    (stepGo c j data).length = r := by
  have hg := stepGo_getElem? c (Nat.zero_lt_of_lt hj) data j
  apply Nat.le_antisymm
  · -- element `r` would be `data[j + r * c]`, beyond the end of the data
    refine List.getElem?_eq_none_iff.1 ?_
    rw [hg, List.getElem?_eq_none_iff, h]
    exact Nat.le_add_left _ _
  · -- there is no element `length`, so `data[j + length * c]` is beyond the end of the data
    refine Nat.le_of_not_lt fun hlt => ?_
    have := hg (stepGo c j data).length
    rw [List.getElem?_eq_none (Nat.le_refl _), eq_comm, List.getElem?_eq_none_iff, Nat.add_comm] at this
    exact absurd (index_lt h hlt hj) (Nat.not_lt.2 this)

end Matrix
end Hpo
