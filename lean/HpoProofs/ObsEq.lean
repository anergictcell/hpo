import HpoProofs.Annotate
/-!
Fact-level characterisation of the record maps after an annotation history: which records exist,
their names (under "one name per record id"), their direct terms, and that record ids stay
distinct.  Every clause depends on the history through membership only; hence histories that are
permutations of each other give equal lookups (`AnnState.runA_perm*`, the annotation part of C16).
-/
namespace Hpo
open Group

/-- the call creates (or touches) record `r` of kind `k`, given which terms exist -/
def AOp.touches (ex : Nat → Prop) (k : Kind) (r : Nat) : AOp → Prop
  | .addRec k' _ i => k' = k ∧ i = r
  | .annotate k' rid _ t => k' = k ∧ rid = r ∧ ex t

def AOp.nameFor (k : Kind) (r : Nat) : AOp → Option (List Char)
  | .addRec k' n i => if k' = k ∧ i = r then some n else none
  | .annotate k' rid n _ => if k' = k ∧ rid = r then some n else none

theorem nameFor_annotate {k k' : Kind} {r rid t : Nat} {n n' : List Char}
    (h : (AOp.annotate k' rid n' t).nameFor k r = some n) : k' = k ∧ rid = r ∧ n' = n := by
  simp only [AOp.nameFor] at h
  split at h
  · rename_i hkr
    exact ⟨hkr.1, hkr.2, Option.some.inj h⟩
  · cases h

/-- "one name per record id": every call concerning record `(k, r)` supplies `nameOf k r` -/
def NamesFunctional (nameOf : Kind → Nat → List Char) (ops : List AOp) : Prop :=
  ∀ op ∈ ops, ∀ k r n, op.nameFor k r = some n → n = nameOf k r

/-- all fields of a term except the three annotation sets -/
def coreOf (t : Term) :=
  (t.id, t.name, t.parents, t.allParents, t.children, t.icGene, t.icOmim, t.icOrpha, t.obsolete, t.replacement)

theorem coreOf_setAnn (t : Term) (k : Kind) (v : List Nat) : coreOf (t.setAnn k v) = coreOf t := by
  cases k <;> rfl

theorem term_ext_ann (t u : Term) (h : coreOf t = coreOf u) (hg : t.genes = u.genes)
    (ho : t.omim = u.omim) (hr : t.orpha = u.orpha) : t = u := by
  cases t; cases u
  simp only [coreOf, Prod.mk.injEq] at h
  simp_all

section
variable {anc : Nat → List Nat} {ex : Nat → Prop} {rank : Nat → Nat} {o : Onto}

theorem AnnState.getR_applyA (S : AnnState anc ex rank o) (op : AOp) (k : Kind) (r : Nat) :
    (op.touches ex k r ∧ ∃ x, getR ((applyA o op).recs k) r = some x ∧
      some x.name = ((getR (o.recs k) r).map (·.name)).or (op.nameFor k r)) ∨
    (¬ op.touches ex k r ∧ getR ((applyA o op).recs k) r = getR (o.recs k) r) := by
  cases op with
  | addRec k' n i =>
    rw [applyA, getR_addRec, AOp.touches, AOp.nameFor]
    by_cases hc : k' = k ∧ i = r
    · rw [if_pos hc, if_pos hc]
      refine Or.inl ⟨hc, ?_⟩
      cases getR (o.recs k) r with
      | none => exact ⟨_, rfl, rfl⟩
      | some y => exact ⟨y, rfl, rfl⟩
    · rw [if_neg hc]; exact Or.inr ⟨hc, rfl⟩
  | annotate k' rid n t =>
    rw [AOp.touches, AOp.nameFor]
    by_cases ht : ex t
    · rw [recs_of_rest (S.applyA_present k' rid n ht).2.rest, getR_addTermToRec]
      by_cases hc : k' = k ∧ rid = r
      · rw [if_pos hc, if_pos hc]
        refine Or.inl ⟨⟨hc.1, hc.2, ht⟩, _, rfl, ?_⟩
        cases getR (o.recs k) r <;> rfl
      · rw [if_neg hc]; exact Or.inr ⟨fun h => hc ⟨h.1, h.2.1⟩, rfl⟩
    · rw [S.inv.applyA_absent k' rid n ht]; exact Or.inr ⟨fun h => ht h.2.2, rfl⟩

theorem AnnState.applyA_hposOf (S : AnnState anc ex rank o) (op : AOp) (k : Kind) (r d : Nat) :
    d ∈ hposOf k (applyA o op) r ↔ d ∈ hposOf k o r ∨ (ex d ∧ ∃ n, op = .annotate k r n d) := by
  cases op with
  | addRec k' n i =>
    rw [applyA, hposOf_addRec]
    exact (or_iff_left fun ⟨_, _, e⟩ => nomatch e).symm
  | annotate k' rid n t =>
    by_cases ht : ex t
    · rw [hposOf_of_rest (S.applyA_present k' rid n ht).2.rest, mem_hposOf_addTermToRec]
      refine or_congr_right ⟨?_, ?_⟩
      · rintro ⟨rfl, rfl, rfl⟩; exact ⟨ht, n, rfl⟩
      · rintro ⟨_, _, e⟩; cases e; exact ⟨rfl, rfl, rfl⟩
    · rw [S.inv.applyA_absent k' rid n ht]
      refine (or_iff_left ?_).symm
      rintro ⟨hd, _, e⟩
      cases e; exact ht hd

theorem AnnState.runA_recs_isSome (S : AnnState anc ex rank o) (ops : List AOp) (k : Kind) (r : Nat) :
    (getR ((runA ops o).recs k) r).isSome ↔
      (getR (o.recs k) r).isSome ∨ ∃ op ∈ ops, op.touches ex k r := by
  induction ops generalizing o with
  | nil => simp [runA]
  | cons op ops ih =>
    have := ih (S.step op)
    simp only [runA, List.foldl_cons] at this ⊢
    have h1 : (getR ((applyA o op).recs k) r).isSome ↔ (getR (o.recs k) r).isSome ∨ op.touches ex k r := by
      rcases S.getR_applyA op k r with ⟨ht, x, hx, _⟩ | ⟨ht, e⟩
      · rw [hx]; exact ⟨fun _ => Or.inr ht, fun _ => rfl⟩
      · rw [e]; exact ⟨Or.inl, fun h => h.resolve_right ht⟩
    rw [this, h1, or_assoc]; simp only [List.mem_cons, exists_eq_or_imp]

theorem AnnState.runA_hposOf (S : AnnState anc ex rank o) (ops : List AOp) (k : Kind) (r d : Nat) :
    d ∈ hposOf k (runA ops o) r ↔ d ∈ hposOf k o r ∨ (ex d ∧ ∃ n, AOp.annotate k r n d ∈ ops) := by
  induction ops generalizing o with
  | nil => simp [runA]
  | cons op ops ih =>
    have := ih (S.step op)
    simp only [runA, List.foldl_cons] at this ⊢
    rw [this, S.applyA_hposOf op, or_assoc, ← and_or_left, ← exists_or]
    simp only [List.mem_cons, eq_comm]

theorem AnnState.runA_names (S : AnnState anc ex rank o) (nameOf : Kind → Nat → List Char)
    (ops : List AOp) (hn : NamesFunctional nameOf ops)
    (h0 : ∀ k r x, getR (o.recs k) r = some x → x.name = nameOf k r) :
    ∀ k r x, getR ((runA ops o).recs k) r = some x → x.name = nameOf k r := by
  induction ops generalizing o with
  | nil => exact h0
  | cons op ops ih =>
    refine ih (S.step op) (fun op' hop => hn op' (List.mem_cons_of_mem _ hop)) ?_
    intro k r x hx
    rcases S.getR_applyA op k r with ⟨_, x', hx', hname⟩ | ⟨_, e⟩
    · cases hx'.symm.trans hx
      cases hg : getR (o.recs k) r with
      | some y => rw [hg] at hname; exact (Option.some.inj hname).trans (h0 k r y hg)
      | none => rw [hg] at hname; exact hn op List.mem_cons_self k r x.name hname.symm
    · exact h0 k r x (e ▸ hx)

theorem AnnState.applyA_recIds (S : AnnState anc ex rank o) (op : AOp) (k : Kind)
    (h : ((o.recs k).map (·.id)).Nodup) : (((applyA o op).recs k).map (·.id)).Nodup := by
  have hadd : ∀ k' n i, (((o.addRec k' n i).recs k).map (·.id)).Nodup := by
    intro k' n i
    unfold Onto.addRec
    by_cases hk : k = k'
    · subst hk; rw [recs_setRecs]; exact addR_ids_nodup _ _ h
    · rw [recs_setRecs_ne _ _ _ _ hk]; exact h
  cases op with
  | addRec k' n i => exact hadd k' n i
  | annotate k' rid n t =>
    by_cases ht : ex t
    · rw [recs_of_rest (S.applyA_present k' rid n ht).2.rest]
      unfold Onto.addTermToRec
      by_cases hk : k = k'
      · subst hk; rw [recs_setRecs, modR_ids]
        · exact hadd k n rid
        · exact fun _ => rfl
      · rw [recs_setRecs_ne _ _ _ _ hk]; exact hadd k' n rid
    · rw [S.inv.applyA_absent k' rid n ht]; exact h

theorem AnnState.runA_recIds (S : AnnState anc ex rank o) (ops : List AOp) (k : Kind)
    (h : ((o.recs k).map (·.id)).Nodup) : (((runA ops o).recs k).map (·.id)).Nodup := by
  induction ops generalizing o with
  | nil => exact h
  | cons op ops ih => exact ih (S.step op) (S.applyA_recIds op k h)

end

/-! ### permuted histories, from two states of the same invariant (the same ancestor function, the
same terms) that agree on their records -/

section
variable {anc : Nat → List Nat} {ex : Nat → Prop} {rank1 rank2 : Nat → Nat} {o1 o2 : Onto}
  {ops1 ops2 : List AOp}

theorem AnnState.runA_perm (S1 : AnnState anc ex rank1 o1) (S2 : AnnState anc ex rank2 o2)
    (hp : ops1.Perm ops2) (k : Kind) (h0 : ∀ r, hposOf k o1 r = hposOf k o2 r) :
    (∀ r, hposOf k (runA ops1 o1) r = hposOf k (runA ops2 o2) r) ∧
    (∀ x, annOf k (runA ops1 o1).terms x = annOf k (runA ops2 o2).terms x) := by
  have H1 := (S1.run ops1).inv
  have H2 := (S2.run ops2).inv
  have hh : ∀ r, hposOf k (runA ops1 o1) r = hposOf k (runA ops2 o2) r := fun r =>
    eq_of_sorted_of_mem_iff _ _ (H1.hposSorted k r) (H2.hposSorted k r) fun d => by
      rw [S1.runA_hposOf, S2.runA_hposOf, h0 r]
      simp only [hp.mem_iff]
  refine ⟨hh, fun x => eq_of_sorted_of_mem_iff _ _ (H1.sorted k x) (H2.sorted k x) fun r => ?_⟩
  rw [H1.linked k x r, H2.linked k x r, hh r]

theorem AnnState.runA_perm_recs (S1 : AnnState anc ex rank1 o1) (S2 : AnnState anc ex rank2 o2)
    (hp : ops1.Perm ops2) (nameOf : Kind → Nat → List Char) (hn : NamesFunctional nameOf ops1)
    (h0 : ∀ k r, getR (o1.recs k) r = getR (o2.recs k) r)
    (hn0 : ∀ k r x, getR (o1.recs k) r = some x → x.name = nameOf k r) (k : Kind) (r : Nat) :
    getR ((runA ops1 o1).recs k) r = getR ((runA ops2 o2).recs k) r := by
  refine lookup_ext ?_ fun x1 x2 g1 g2 => ?_
  · rw [S1.runA_recs_isSome, S2.runA_recs_isSome, h0 k r]
    simp only [hp.mem_iff]
  · -- a record is its id, its name and its direct terms
    have hh := (S1.runA_perm S2 hp k fun r => by rw [hposOf, hposOf, h0 k r]).1 r
    rw [hposOf_eq g1, hposOf_eq g2] at hh
    exact rec_ext x1 x2 ((getR_id g1).trans (getR_id g2).symm)
      ((S1.runA_names nameOf ops1 hn hn0 k r x1 g1).trans
        (S2.runA_names nameOf ops2 (fun op hop => hn op (hp.mem_iff.2 hop))
          (fun k r x hx => hn0 k r x ((h0 k r).trans hx)) k r x2 g2).symm) hh

theorem AnnState.runA_perm_terms (S1 : AnnState anc ex rank1 o1) (S2 : AnnState anc ex rank2 o2)
    (hp : ops1.Perm ops2) (ht0 : ∀ j, getT o1.terms j = getT o2.terms j)
    (h0 : ∀ k r, hposOf k o1 r = hposOf k o2 r) (j : Nat) :
    getT (runA ops1 o1).terms j = getT (runA ops2 o2).terms j := by
  refine lookup_ext ?_ fun t1 t2 g1 g2 => ?_
  · rw [(S1.run ops1).inv.pres, (S2.run ops2).inv.pres]
  · -- a term is what the annotation calls leave alone and its three annotation sets
    have hc := ((runA_frame ops1 o1).lookup coreOf coreOf_setAnn j).trans
      ((congrArg (Option.map coreOf) (ht0 j)).trans ((runA_frame ops2 o2).lookup coreOf coreOf_setAnn j).symm)
    rw [g1, g2] at hc
    have ha := fun k => (S1.runA_perm S2 hp k (h0 k)).2 j
    simp only [annOf_eq g1, annOf_eq g2] at ha
    exact term_ext_ann t1 t2 (Option.some.inj hc) (ha .gene) (ha .omim) (ha .orpha)

end

end Hpo
