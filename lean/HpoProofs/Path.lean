import HpoProofs.Read
/-!
The vocabulary in which C11 is stated (chains of parent links, shortest chains, walks, `PathWF`) and the
proofs that the path functions of `HpoModel/Read.lean` meet it.  Two observations carry them.  Every loop of
these functions is a `min` / `min_by_key` over candidates, so one notion (`IsMin`, with `pick` for a step of
the loop) says what each returns.  And each `distance_*` returns the length of what its `path_*` twin returns
(`distToAnc_of_path`, with no hypothesis; `joinPoint_spec` for the two-term loops), so the induction over the
fuel is done once, for paths.
-/
namespace Hpo

/-- the parent function of an ontology (`parent_ids` of the term with that id; `[]` for an absent id) -/
def Onto.par (o : Onto) (i : Nat) : List Nat :=
  match o.get i with
  | some t => t.parents
  | none => []

/-- `Chain par t a n`: `n` parent links lead from `t` up to `a` -/
inductive Chain (par : Nat → List Nat) : Nat → Nat → Nat → Prop
  | refl (t : Nat) : Chain par t t 0
  | step {t p a n : Nat} : p ∈ par t → Chain par p a n → Chain par t a (n + 1)

/-- `d` is the least length of a chain from `t` up to `a` -/
def Shortest (par : Nat → List Nat) (t a d : Nat) : Prop :=
  Chain par t a d ∧ ∀ n, Chain par t a n → d ≤ n

/-- `a` is `t` itself or an ancestor of `t` -/
def Reach (par : Nat → List Nat) (t a : Nat) : Prop := ∃ n, Chain par t a n

/-- a chain written out as `path_to_ancestor` returns it: without `t`, ending in `a` -/
def ChainPath (par : Nat → List Nat) : Nat → List Nat → Nat → Prop
  | t, [], a => t = a
  | t, x :: xs, a => x ∈ par t ∧ ChainPath par x xs a

/-- one step of `path_to_term`: a parent link, walked up or down -/
def Linked (par : Nat → List Nat) (x y : Nat) : Prop := y ∈ par x ∨ x ∈ par y

/-- consecutive ids of `x :: p` are `Linked`; as in what `path_to_term` returns, the start `x` is not in the list -/
def Walk (par : Nat → List Nat) : Nat → List Nat → Prop
  | _, [] => True
  | x, y :: ys => Linked par x y ∧ Walk par y ys

/-- What the path functions need from an ontology:
all parent ids resolve, `all_parents` is the transitive closure of `parents` (the conclusion of
C01), and the parent relation is acyclic, given as a rank function that bounds the fuel. -/
structure PathWF (o : Onto) (rank : Nat → Nat) : Prop where
  resolve : ∀ i t, o.get i = some t → ∀ p ∈ t.parents, ∃ tp, o.get p = some tp
  closed : ∀ i t, o.get i = some t → ∀ a, a ∈ t.allParents ↔ ∃ n, Chain o.par i a (n + 1)
  rank_lt : ∀ i t, o.get i = some t → ∀ p ∈ t.parents, rank p < rank i
  rank_fuel : ∀ i t, o.get i = some t → rank i < o.fuel

theorem Onto.par_eq {o : Onto} {i : Nat} {t : Term} (h : o.get i = some t) : o.par i = t.parents := by
  simp [Onto.par, h]

theorem par_eq_parentsOf {o : Onto} (hs : ∀ j, (getT o.terms j).isSome → j < maxId) (c : Nat) :
    o.par c = parentsOf o.terms c := by
  unfold Onto.par parentsOf
  rw [get_eq_getT o c hs]
  cases getT o.terms c <;> rfl

theorem Chain.zero_iff {par : Nat → List Nat} {t a : Nat} : Chain par t a 0 ↔ t = a := by
  constructor
  · intro h; cases h; rfl
  · intro h; subst h; exact Chain.refl _

theorem Chain.succ_iff {par : Nat → List Nat} {t a n : Nat} :
    Chain par t a (n + 1) ↔ ∃ p, p ∈ par t ∧ Chain par p a n := by
  constructor
  · intro h; cases h with | step hp hc => exact ⟨_, hp, hc⟩
  · rintro ⟨p, hp, hc⟩; exact Chain.step hp hc

theorem Chain.trans {par : Nat → List Nat} {t a b n m : Nat} (h1 : Chain par t a n) (h2 : Chain par a b m) :
    Chain par t b (n + m) := by
  induction h1 with
  | refl t => simpa using h2
  | step hp _ ih =>
    have := Chain.step hp (ih h2)
    simpa [Nat.add_right_comm] using this

theorem Shortest.unique {par : Nat → List Nat} {t a d d' : Nat} (h : Shortest par t a d) (h' : Shortest par t a d') :
    d = d' := Nat.le_antisymm (h.2 _ h'.1) (h'.2 _ h.1)

theorem Reach.shortest {par : Nat → List Nat} {t a : Nat} (h : Reach par t a) : ∃ d, Shortest par t a d := by
  obtain ⟨n, hn⟩ := h
  induction n using Nat.strongRecOn with
  | _ n ih =>
    by_cases hm : ∃ m, m < n ∧ Chain par t a m
    · obtain ⟨m, hlt, hc⟩ := hm
      exact ih m hlt hc
    · refine ⟨n, hn, fun k hk => ?_⟩
      apply Nat.le_of_not_lt
      intro hlt
      exact hm ⟨k, hlt, hk⟩

theorem ChainPath.chain {par : Nat → List Nat} {t : Nat} {p : List Nat} {a : Nat}
    (h : ChainPath par t p a) : Chain par t a p.length := by
  induction p generalizing t with
  | nil => exact Chain.zero_iff.2 h
  | cons _ _ ih => exact Chain.step h.1 (ih h.2)

theorem Chain.iff_path {par : Nat → List Nat} {t a n : Nat} :
    Chain par t a n ↔ ∃ p, ChainPath par t p a ∧ p.length = n := by
  constructor
  · intro h
    induction h with
    | refl t => exact ⟨[], rfl, rfl⟩
    | step hp _ ih =>
      obtain ⟨q, hq, hl⟩ := ih
      exact ⟨_ :: q, ⟨hp, hq⟩, congrArg (· + 1) hl⟩
  · rintro ⟨p, hp, rfl⟩; exact hp.chain

theorem ChainPath.getLast {par : Nat → List Nat} {p : List Nat} {a : Nat} : ∀ {t : Nat},
    ChainPath par t p a → (t :: p).getLast? = some a := by
  induction p with
  | nil => intro t h; exact congrArg some h
  | cons x xs ih => intro t h; rw [List.getLast?_cons_cons]; exact ih h.2

theorem ChainPath.of_ne {par : Nat → List Nat} {t a : Nat} (h : t ≠ a) (q : List Nat) :
    ChainPath par t q a ↔ ∃ p ∈ par t, ∃ xs, ChainPath par p xs a ∧ p :: xs = q := by
  cases q with
  | nil => exact ⟨fun e => absurd e h, by rintro ⟨_, _, _, _, e⟩; cases e⟩
  | cons x xs =>
    constructor
    · rintro ⟨hx, hc⟩; exact ⟨x, hx, xs, hc, rfl⟩
    · rintro ⟨p, hp, ys, hc, e⟩; cases e; exact ⟨hp, hc⟩

theorem PathWF.chain_resolves {o : Onto} {rank : Nat → Nat} (wf : PathWF o rank) {t a n : Nat}
    (h : Chain o.par t a n) : (∃ tt, o.get t = some tt) → ∃ ta, o.get a = some ta := by
  induction h with
  | refl t => exact id
  | step hp _ ih =>
    rintro ⟨tt, ht⟩
    rw [Onto.par_eq ht] at hp
    exact ih (wf.resolve _ _ ht _ hp)

theorem PathWF.chain_rank {o : Onto} {rank : Nat → Nat} (wf : PathWF o rank) {t a n : Nat}
    (h : Chain o.par t a n) : rank a + n ≤ rank t := by
  induction h with
  | refl t => exact Nat.le_refl _
  | @step t p a n hp _ ih =>
    cases hg : o.get t with
    | none => simp [Onto.par, hg] at hp
    | some tt =>
      rw [Onto.par_eq hg] at hp
      exact Nat.lt_of_le_of_lt ih (wf.rank_lt _ _ hg _ hp)

theorem PathWF.chain_self {o : Onto} {rank : Nat → Nat} (wf : PathWF o rank) {t n : Nat}
    (h : Chain o.par t t n) : n = 0 :=
  Nat.le_zero.1 (Nat.le_of_add_le_add_left (wf.chain_rank h))

theorem PathWF.reach_iff {o : Onto} {rank : Nat → Nat} (wf : PathWF o rank) {i : Nat} {t : Term}
    (h : o.get i = some t) (c : Nat) : Reach o.par i c ↔ c = i ∨ c ∈ t.allParents := by
  constructor
  · rintro ⟨n, hn⟩
    cases n with
    | zero => exact Or.inl (Chain.zero_iff.1 hn).symm
    | succ n => exact Or.inr ((wf.closed _ _ h c).2 ⟨n, hn⟩)
  · rintro (rfl | hc)
    · exact ⟨0, Chain.refl _⟩
    · obtain ⟨n, hn⟩ := (wf.closed _ _ h c).1 hc
      exact ⟨n + 1, hn⟩

/-! ### first minima

`pick key x m` is one step of a `filter_map(..).min()` / `.min_by_key(..)` loop.  The model loops recurse on the
tail, so `x` is the candidate at hand and `m` the result for the candidates still to come; of two candidates of
least key the FIRST stays, as in Rust.  `IsMin key S` is what such a loop has established of its result when `S`
is the set of candidates it went through; `IsMin.pick` is the step. -/

def IsMin {α : Type} (key : α → Nat) (S : α → Prop) : Option α → Prop
  | some x => S x ∧ ∀ y, S y → key x ≤ key y
  | none => ∀ y, ¬ S y

def pick {α : Type} (key : α → Nat) : Option α → Option α → Option α
  | none, m => m
  | some x, none => some x
  | some x, some m => some (if key m < key x then m else x)

open Onto in
theorem optMin_eq_pick (x m : Option Nat) : optMin x m = pick id x m := by
  cases x <;> cases m <;> rfl

open Onto in
theorem firstShorter_eq_pick (x m : Option (List Nat)) : firstShorter x m = pick List.length x m := by
  cases x <;> cases m <;> rfl

open Onto in
theorem firstSmaller_eq_pick (x : Nat × Nat) (m : Option (Nat × Nat)) :
    some (firstSmaller x m) = pick Prod.snd (some x) m := by
  cases m <;> rfl

theorem pick_map {α β : Type} {key : α → Nat} {key' : β → Nat} (f : α → β) (c : Nat)
    (hk : ∀ x, key' (f x) = key x + c) (x m : Option α) :
    (pick key x m).map f = pick key' (x.map f) (m.map f) := by
  cases x with
  | none => rfl
  | some x =>
    cases m with
    | none => rfl
    | some m =>
      show some (f (if key m < key x then m else x)) = some (if key' (f m) < key' (f x) then f m else f x)
      simp only [hk, Nat.add_lt_add_iff_right, apply_ite f]

namespace IsMin
variable {α β : Type} {key : α → Nat} {S T : α → Prop}

theorem congr {r : Option α} (h : ∀ y, S y ↔ T y) (hr : IsMin key S r) : IsMin key T r := by
  cases r with
  | none => exact fun y hy => hr y ((h y).2 hy)
  | some x => exact ⟨(h x).1 hr.1, fun y hy => hr.2 y ((h y).2 hy)⟩

theorem pick {x m : Option α} (hx : IsMin key S x) (hm : IsMin key T m) :
    IsMin key (fun y => S y ∨ T y) (pick key x m) := by
  cases x with
  | none => exact hm.congr fun y => ⟨Or.inr, fun h => h.resolve_left (hx y)⟩
  | some x =>
    cases m with
    | none => exact hx.congr fun y => ⟨Or.inl, fun h => h.resolve_right (hm y)⟩
    | some m =>
      show IsMin key _ (some (if key m < key x then m else x))
      split
      · rename_i hlt
        exact ⟨Or.inr hm.1, fun y hy => hy.elim (fun hy => Nat.le_trans (Nat.le_of_lt hlt) (hx.2 y hy)) (hm.2 y)⟩
      · rename_i hge
        exact ⟨Or.inl hx.1, fun y hy => hy.elim (hx.2 y) fun hy => Nat.le_trans (Nat.le_of_not_lt hge) (hm.2 y hy)⟩

theorem map {key' : β → Nat} {T : β → Prop} (f : α → β) (c : Nat) (hk : ∀ x, key' (f x) = key x + c)
    (hT : ∀ y, T y ↔ ∃ x, S x ∧ f x = y) {r : Option α} (hr : IsMin key S r) :
    IsMin key' T (r.map f) := by
  cases r with
  | none => exact fun y hy => by obtain ⟨x, hx, _⟩ := (hT y).1 hy; exact hr x hx
  | some x =>
    refine ⟨(hT _).2 ⟨x, hr.1, rfl⟩, fun y hy => ?_⟩
    obtain ⟨z, hz, rfl⟩ := (hT y).1 hy
    rw [hk, hk]; exact Nat.add_le_add_right (hr.2 z hz) c

theorem unique {S : Nat → Prop} {r r' : Option Nat} (h : IsMin id S r) (h' : IsMin id S r') : r = r' := by
  cases r with
  | none =>
    cases r' with
    | none => rfl
    | some y => exact absurd h'.1 (h y)
  | some x =>
    cases r' with
    | none => exact absurd h.1 (h' x)
    | some y => exact congrArg some (Nat.le_antisymm (h.2 y h'.1) (h'.2 x h.1))

theorem of_exists {r : Option α} (h : IsMin key S r) (hex : ∃ y, S y) :
    ∃ x, r = some x ∧ S x ∧ ∀ y, S y → key x ≤ key y := by
  cases r with
  | none => obtain ⟨y, hy⟩ := hex; exact absurd hy (h y)
  | some x => exact ⟨x, rfl, h⟩

end IsMin

open Onto

/-! ### `path_to_ancestor` and `distance_to_ancestor` -/

theorem pathParents_spec {o : Onto} {rec : Term → Res (Option (List Nat))} {a : Nat} (ps : List Nat)
    (h : ∀ p ∈ ps, ∃ tp, o.get p = some tp ∧ ∃ r, rec tp = .ok r ∧
      IsMin List.length (fun xs => ChainPath o.par p xs a) r) :
    ∃ m, pathParents rec o ps = .ok m ∧
      IsMin List.length (fun q => ∃ p ∈ ps, ∃ xs, ChainPath o.par p xs a ∧ p :: xs = q) m := by
  induction ps with
  | nil => exact ⟨none, rfl, by rintro _ ⟨_, hp, _⟩; cases hp⟩
  | cons p ps ih =>
    obtain ⟨tp, hg, r, hr, hs⟩ := h p List.mem_cons_self
    obtain ⟨m, hm, hms⟩ := ih fun q hq => h q (List.mem_cons_of_mem _ hq)
    refine ⟨firstShorter (r.map (p :: ·)) m, by simp only [pathParents, hg, hr, hm], ?_⟩
    rw [firstShorter_eq_pick]
    exact ((hs.map (p :: ·) 1 (fun _ => rfl) (fun _ => Iff.rfl)).pick hms).congr fun q => by
      simp only [List.mem_cons, exists_eq_or_imp]

theorem pathToAnc_spec {o : Onto} {rank : Nat → Nat} (wf : PathWF o rank) (a : Nat) (fuel : Nat) :
    ∀ (i : Nat) (t : Term), o.get i = some t → rank i < fuel →
    ∃ r, pathToAnc fuel o t a = .ok r ∧ IsMin List.length (fun p => ChainPath o.par i p a) r := by
  induction fuel with
  | zero => intro _ _ _ h; exact absurd h (Nat.not_lt_zero _)
  | succ fuel ih =>
    intro i t hg hrk
    have hid : t.id = i := Onto.get_id hg
    have hpar : o.par i = t.parents := Onto.par_eq hg
    unfold pathToAnc
    by_cases h1 : t.id = a
    · rw [if_pos h1]
      exact ⟨some [], rfl, hid.symm.trans h1, fun _ _ => Nat.zero_le _⟩
    · have hia : i ≠ a := hid ▸ h1
      rw [if_neg h1]
      by_cases h2 : Group.contains t.parents a = true
      · rw [if_pos h2]
        refine ⟨some [a], rfl, ⟨hpar ▸ (Group.contains_iff _ _).1 h2, rfl⟩, fun q hq => ?_⟩
        obtain ⟨_, _, _, _, rfl⟩ := (ChainPath.of_ne hia q).1 hq
        exact Nat.le_add_left 1 _
      · rw [if_neg h2]
        by_cases h3 : (!Group.contains t.allParents a) = true
        · rw [if_pos h3]
          refine ⟨none, rfl, fun q hq => ?_⟩
          rcases (wf.reach_iff hg a).1 ⟨_, hq.chain⟩ with e | e
          · exact hia e.symm
          · rw [(Group.contains_iff _ _).2 e] at h3
            cases h3
        · rw [if_neg h3]
          obtain ⟨m, hm, hms⟩ := pathParents_spec (rec := fun tp => pathToAnc fuel o tp a) (a := a)
            t.parents (fun p hp => by
              obtain ⟨tp, htp⟩ := wf.resolve _ _ hg p hp
              exact ⟨tp, htp, ih p tp htp (Nat.lt_of_lt_of_le (wf.rank_lt _ _ hg p hp) (Nat.le_of_lt_succ hrk))⟩)
          exact ⟨m, hm, hms.congr fun q => by rw [ChainPath.of_ne hia, hpar]⟩

/-- `· + 1`: the path loop conses the parent onto each candidate, the distance loop leaves the step to
`distance_to_ancestor` -/
theorem distParents_of_path {o : Onto} {recD : Term → Res (Option Nat)}
    {recP : Term → Res (Option (List Nat))}
    (h : ∀ tp x, recP tp = .ok x → recD tp = .ok (x.map List.length)) (ps : List Nat) :
    ∀ (m : Option (List Nat)), pathParents recP o ps = .ok m →
    ∃ d, distParents recD o ps = .ok d ∧ d.map (· + 1) = m.map List.length := by
  induction ps with
  | nil => intro m hm; cases hm; exact ⟨none, rfl, rfl⟩
  | cons p ps ih =>
    intro m hm
    simp only [pathParents] at hm
    split at hm
    · cases hm
    · rename_i tp hg
      split at hm
      · rename_i x hx
        split at hm
        · rename_i m' hm'
          cases hm
          obtain ⟨d, hd, e⟩ := ih m' hm'
          refine ⟨optMin (x.map List.length) d, by simp only [distParents, hg, h tp x hx, hd], ?_⟩
          rw [optMin_eq_pick, firstShorter_eq_pick, pick_map (key := id) (key' := id) (· + 1) 1 (fun _ => rfl),
            pick_map (key' := id) List.length 0 (fun _ => rfl), e, Option.map_map, Option.map_map]
          rfl
        all_goals cases hm
      all_goals cases hm

theorem distToAnc_of_path {o : Onto} {a : Nat} (fuel : Nat) : ∀ (t : Term) (r : Option (List Nat)),
    pathToAnc fuel o t a = .ok r → distToAnc fuel o t a = .ok (r.map List.length) := by
  induction fuel with
  | zero => intro _ _ h; cases h
  | succ fuel ih =>
    intro t r h
    unfold pathToAnc at h
    unfold distToAnc
    by_cases h1 : t.id = a
    · rw [if_pos h1] at h ⊢; cases h; rfl
    · rw [if_neg h1] at h ⊢
      by_cases h2 : Group.contains t.parents a = true
      · rw [if_pos h2] at h ⊢; cases h; rfl
      · rw [if_neg h2] at h ⊢
        by_cases h3 : (!Group.contains t.allParents a) = true
        · rw [if_pos h3] at h ⊢; cases h; rfl
        · rw [if_neg h3] at h ⊢
          obtain ⟨d, hd, e⟩ := distParents_of_path ih _ _ h
          rw [hd, ← e]

theorem distToAnc_spec {o : Onto} {rank : Nat → Nat} (wf : PathWF o rank) (a : Nat)
    (fuel : Nat) (i : Nat) (t : Term) (hg : o.get i = some t) (hf : rank i < fuel) :
    ∃ r, distToAnc fuel o t a = .ok r ∧ IsMin id (Chain o.par i a) r := by
  obtain ⟨r, hr, hs⟩ := pathToAnc_spec wf a fuel i t hg hf
  exact ⟨_, distToAnc_of_path _ _ _ hr, hs.map List.length 0 (fun _ => rfl) fun _ => Chain.iff_path⟩

theorem isMin_chain_none {par : Nat → List Nat} {t a : Nat} :
    IsMin id (Chain par t a) none ↔ ¬ Reach par t a :=
  ⟨fun h ⟨n, hn⟩ => h n hn, fun h n hn => h ⟨n, hn⟩⟩

theorem IsMin.shortest {par : Nat → List Nat} {t a : Nat} {p : List Nat}
    (h : IsMin List.length (fun p => ChainPath par t p a) (some p)) : Shortest par t a p.length :=
  h.map (key' := id) List.length 0 (fun _ => rfl) fun _ => Chain.iff_path

/-! ### `distance_to_term` -/

/-- what a result of `distance_to_term` must be: the minimum over the common ancestors (the terms
included) of the sum of the two shortest upward distances; absent iff there is no common ancestor -/
def TermSpec (par : Nat → List Nat) (x y : Nat) : Option Nat → Prop
  | some d => (∃ c dx dy, Shortest par x c dx ∧ Shortest par y c dy ∧ d = dx + dy) ∧
      ∀ c dx dy, Shortest par x c dx → Shortest par y c dy → d ≤ dx + dy
  | none => ¬ ∃ c, Reach par x c ∧ Reach par y c

/-- `d` is the length of a shortest route from `x` up to `c` and down to `y` -/
def Via (par : Nat → List Nat) (x y c d : Nat) : Prop :=
  ∃ dx dy, Shortest par x c dx ∧ Shortest par y c dy ∧ d = dx + dy

theorem Via.symm {par : Nat → List Nat} {x y c d : Nat} (h : Via par x y c d) : Via par y x c d := by
  obtain ⟨dx, dy, hx, hy, e⟩ := h
  exact ⟨dy, dx, hy, hx, e.trans (Nat.add_comm _ _)⟩

theorem Via.reach {par : Nat → List Nat} {x y c d : Nat} (h : Via par x y c d) : Reach par x c ∧ Reach par y c := by
  obtain ⟨dx, dy, hx, hy, -⟩ := h
  exact ⟨⟨dx, hx.1⟩, ⟨dy, hy.1⟩⟩

theorem via_of_reach {par : Nat → List Nat} {x y c : Nat} (hx : Reach par x c) (hy : Reach par y c) :
    ∃ d, Via par x y c d := by
  obtain ⟨dx, hx⟩ := hx.shortest
  obtain ⟨dy, hy⟩ := hy.shortest
  exact ⟨_, dx, dy, hx, hy, rfl⟩

theorem termSpec_iff {par : Nat → List Nat} {x y : Nat} {r : Option Nat} :
    TermSpec par x y r ↔ IsMin id (fun d => ∃ c, Via par x y c d) r := by
  cases r with
  | none =>
    constructor
    · rintro h d ⟨c, hv⟩
      exact h ⟨c, hv.reach⟩
    · rintro h ⟨c, hx, hy⟩
      obtain ⟨d, hd⟩ := via_of_reach hx hy
      exact h d ⟨c, hd⟩
  | some d =>
    constructor
    · rintro ⟨⟨c, h⟩, hmin⟩
      exact ⟨⟨c, h⟩, by rintro _ ⟨c', dx, dy, hx, hy, rfl⟩; exact hmin c' dx dy hx hy⟩
    · rintro ⟨⟨c, h⟩, hmin⟩
      exact ⟨⟨c, h⟩, fun c' dx dy hx hy => hmin _ ⟨c', dx, dy, hx, hy, rfl⟩⟩

theorem TermSpec.unique {par : Nat → List Nat} {x y : Nat} {r r' : Option Nat}
    (h : TermSpec par x y r) (h' : TermSpec par x y r') : r = r' :=
  (termSpec_iff.1 h).unique (termSpec_iff.1 h')

theorem TermSpec.symm {par : Nat → List Nat} {x y : Nat} {r : Option Nat}
    (h : TermSpec par x y r) : TermSpec par y x r :=
  termSpec_iff.2 ((termSpec_iff.1 h).congr fun _ => exists_congr fun _ => ⟨Via.symm, Via.symm⟩)

theorem via_spec {par : Nat → List Nat} {x y c dx dy : Nat} (hx : Shortest par x c dx) (hy : Shortest par y c dy) :
    IsMin Prod.snd (fun e : Nat × Nat => e.1 = c ∧ Via par x y e.1 e.2) (some (c, dx + dy)) := by
  refine ⟨⟨rfl, dx, dy, hx, hy, rfl⟩, ?_⟩
  rintro ⟨_, _⟩ ⟨rfl, ex, ey, hex, hey, rfl⟩
  rw [hx.unique hex, hy.unique hey]
  exact Nat.le_refl _

theorem PathWF.mem_common {o : Onto} {rank : Nat → Nat} (wf : PathWF o rank) {i j : Nat} {a b : Term}
    (ha : o.get i = some a) (hb : o.get j = some b) (c : Nat) :
    c ∈ a.allCommonAncestorIds b ↔ Reach o.par i c ∧ Reach o.par j c := by
  rw [wf.reach_iff ha, wf.reach_iff hb, a.mem_allCommonAncestorIds b, Onto.get_id ha, Onto.get_id hb]

/-- one induction for the loops of `path_to_term` and `distance_to_term`: they differ only where a distance
is `None` (panic / skip), which `h` excludes -/
theorem joinPoint_spec {o : Onto} {rank : Nat → Nat} (wf : PathWF o rank) {i j : Nat} {a b : Term}
    (ha : o.get i = some a) (hb : o.get j = some b) (cs : List Nat)
    (h : ∀ c ∈ cs, (∃ tc, o.get c = some tc) ∧ Reach o.par i c ∧ Reach o.par j c) :
    ∃ m, joinPoint o a b cs = .ok m ∧ termDists o a b cs = .ok (m.map Prod.snd) ∧
      IsMin Prod.snd (fun e : Nat × Nat => e.1 ∈ cs ∧ Via o.par i j e.1 e.2) m := by
  induction cs with
  | nil => exact ⟨none, rfl, rfl, fun _ h => absurd h.1 List.not_mem_nil⟩
  | cons c cs ih =>
    obtain ⟨⟨tc, hc⟩, hri, hrj⟩ := h c List.mem_cons_self
    obtain ⟨m, hm, hd, hms⟩ := ih fun q hq => h q (List.mem_cons_of_mem _ hq)
    obtain ⟨ra, hra, hsa⟩ := distToAnc_spec wf c o.fuel i a ha (wf.rank_fuel _ _ ha)
    obtain ⟨rb, hrb, hsb⟩ := distToAnc_spec wf c o.fuel j b hb (wf.rank_fuel _ _ hb)
    obtain ⟨dx, rfl, -⟩ := hsa.of_exists hri
    obtain ⟨dy, rfl, -⟩ := hsb.of_exists hrj
    refine ⟨some (firstSmaller (c, dx + dy) m), by simp only [joinPoint, hc, hra, hrb, hm], ?_, ?_⟩
    · simp only [termDists, hc, hra, hrb, hd]
      rw [firstSmaller_eq_pick, pick_map (key' := id) Prod.snd 0 (fun _ => rfl), optMin_eq_pick]
      rfl
    · rw [firstSmaller_eq_pick]
      exact ((via_spec hsa hsb).pick hms).congr fun e => by simp only [List.mem_cons, or_and_right]

/-- `joinPoint_spec` at `all_common_ancestors`: these ids resolve, and a route can go over no other id, so
the candidates are all of `Via` -/
theorem meet_spec {o : Onto} {rank : Nat → Nat} (wf : PathWF o rank) {i j : Nat} {a b : Term}
    (ha : o.get i = some a) (hb : o.get j = some b) :
    ∃ m, joinPoint o a b (a.allCommonAncestorIds b) = .ok m ∧ o.distToTerm a b = .ok (m.map Prod.snd) ∧
      IsMin Prod.snd (fun e : Nat × Nat => Via o.par i j e.1 e.2) m := by
  have hmem := wf.mem_common ha hb
  obtain ⟨m, hm, hd, hms⟩ := joinPoint_spec wf ha hb _ fun c hc => by
    obtain ⟨⟨n, hn⟩, hj⟩ := (hmem c).1 hc
    exact ⟨wf.chain_resolves hn ⟨a, ha⟩, ⟨n, hn⟩, hj⟩
  exact ⟨m, hm, hd, hms.congr fun e => ⟨fun h => h.2, fun h => ⟨(hmem _).2 h.reach, h⟩⟩⟩

theorem distToTerm_spec {o : Onto} {rank : Nat → Nat} (wf : PathWF o rank) {i j : Nat} {a b : Term}
    (ha : o.get i = some a) (hb : o.get j = some b) :
    ∃ r, o.distToTerm a b = .ok r ∧ TermSpec o.par i j r := by
  obtain ⟨m, -, hd, hms⟩ := meet_spec wf ha hb
  exact ⟨_, hd, termSpec_iff.2 (hms.map Prod.snd 0 (fun _ => rfl) fun d =>
    ⟨by rintro ⟨c, h⟩; exact ⟨(c, d), h, rfl⟩, by rintro ⟨e, h, rfl⟩; exact ⟨e.1, h⟩⟩)⟩

theorem Onto.distToTerm_symm {o : Onto} {rank : Nat → Nat} (wf : PathWF o rank) {i j : Nat} {a b : Term}
    (ha : o.get i = some a) (hb : o.get j = some b) : o.distToTerm a b = o.distToTerm b a := by
  obtain ⟨r, hr, hs⟩ := distToTerm_spec wf ha hb
  obtain ⟨r', hr', hs'⟩ := distToTerm_spec wf hb ha
  rw [hr, hr', hs.unique hs'.symm]

/-! ### `path_to_term`: the two upward paths joined at the meeting point -/

theorem getLast?_cons_append {x z : Nat} {p : List Nat} (h : (x :: p).getLast? = some z) (q : List Nat) :
    (x :: (p ++ q)).getLast? = (z :: q).getLast? := by
  rw [← List.cons_append, List.getLast?_append, h]
  cases q with
  | nil => rfl
  | cons y ys => rw [List.getLast?_cons_cons, List.getLast?_eq_some_getLast (List.cons_ne_nil y ys)]; rfl

theorem Walk.append {par : Nat → List Nat} : ∀ {p : List Nat} {x z : Nat} {q : List Nat},
    Walk par x p → (x :: p).getLast? = some z → Walk par z q → Walk par x (p ++ q) := by
  intro p
  induction p with
  | nil => intro x z q _ hl hq; cases hl; exact hq
  | cons y ys ih =>
    intro x z q hp hl hq
    rw [List.getLast?_cons_cons] at hl
    exact ⟨hp.1, ih hp.2 hl hq⟩

theorem ChainPath.walk {par : Nat → List Nat} {p : List Nat} {a : Nat} : ∀ {t : Nat},
    ChainPath par t p a → Walk par t p := by
  induction p with
  | nil => intro _ _; trivial
  | cons x xs ih => intro t h; exact ⟨Or.inl h.1, ih h.2⟩

/-- `(y :: pb).reverse.drop 1` is how `path_to_term` reads the second upward path: backwards, from the
meeting point `c` down to `y` -/
theorem ChainPath.walk_reverse {par : Nat → List Nat} {pb : List Nat} {c : Nat} : ∀ {y : Nat},
    ChainPath par y pb c → Walk par c ((y :: pb).reverse.drop 1) ∧
      (c :: (y :: pb).reverse.drop 1).getLast? = some y := by
  induction pb with
  | nil => intro y h; cases h; exact ⟨trivial, rfl⟩
  | cons x xs ih =>
    intro y h
    obtain ⟨hw, hl⟩ := ih h.2
    have e : (y :: x :: xs).reverse.drop 1 = (x :: xs).reverse.drop 1 ++ [y] := by
      rw [List.reverse_cons, List.drop_append_of_le_length (by simp)]
    rw [e]
    exact ⟨Walk.append hw hl ⟨Or.inr h.1, trivial⟩, by rw [getLast?_cons_append hl]; rfl⟩

theorem pushLast_of_ne {p : List Nat} {b : Nat} (h : p.getLast? ≠ some b) : pushLast p b = p ++ [b] := by
  simp [pushLast, h]

theorem pushLast_of_eq {p : List Nat} {b : Nat} (h : p.getLast? = some b) : pushLast p b = p := by
  simp [pushLast, h]

theorem join_spec {o : Onto} {rank : Nat → Nat} (wf : PathWF o rank) {i j c : Nat} {pa pb : List Nat}
    (hij : i ≠ j) (ha : ChainPath o.par i pa c) (hb : ChainPath o.par j pb c) :
    Walk o.par i (pushLast (pa ++ pb.reverse.drop 1) j) ∧
    (pushLast (pa ++ pb.reverse.drop 1) j).getLast? = some j ∧
    (pushLast (pa ++ pb.reverse.drop 1) j).length = pa.length + pb.length := by
  cases pb with
  | nil =>
    -- `j` is the meeting point: the way up ends there and nothing is pushed
    cases hb
    have hl := ha.getLast
    rw [List.getLast?_cons] at hl
    have : pa.getLast? = some j := by
      cases hp : pa.getLast? with
      | none => rw [hp] at hl; exact absurd (Option.some.inj hl) hij
      | some z => rw [hp] at hl; exact hl
    simp [pushLast_of_eq, this, ha.walk]
  | cons x xs =>
    -- up along `pa`, down along `pb` read backwards as far as `x`, a parent of `j`; then `j` is pushed
    obtain ⟨hw, hl⟩ := hb.2.walk_reverse
    have hwalk := Walk.append ha.walk ha.getLast hw
    have hlast := (getLast?_cons_append ha.getLast _).trans hl
    have hne : (pa ++ (x :: xs).reverse.drop 1).getLast? ≠ some j := by
      intro h
      rw [List.getLast?_cons, h] at hlast
      cases hlast
      exact Nat.succ_ne_zero 0 (wf.chain_self (Chain.step hb.1 (Chain.refl _)))
    rw [pushLast_of_ne hne]
    exact ⟨Walk.append hwalk hlast ⟨Or.inr hb.1, trivial⟩, List.getLast?_concat, by simp⟩

/-- `i ≠ j`: `path_to_term(a, a)` is `[a]`, one id at distance 0 -/
theorem pathToTerm_spec {o : Onto} {rank : Nat → Nat} (wf : PathWF o rank) {i j : Nat} {a b : Term}
    (ha : o.get i = some a) (hb : o.get j = some b) (hij : i ≠ j) :
    ∃ r, o.pathToTerm a b = .ok r ∧ o.distToTerm a b = .ok (r.map List.length) ∧
      ∀ p, r = some p → Walk o.par i p ∧ p.getLast? = some j := by
  obtain ⟨m, hm, hd, hms⟩ := meet_spec wf ha hb
  cases m with
  | none => exact ⟨none, by simp [pathToTerm, hm], hd, fun _ h => nomatch h⟩
  | some e =>
    obtain ⟨dx, dy, hx, hy, hes⟩ := hms.1
    obtain ⟨ra, hra, hsa⟩ := pathToAnc_spec wf e.1 o.fuel i a ha (wf.rank_fuel _ _ ha)
    obtain ⟨rb, hrb, hsb⟩ := pathToAnc_spec wf e.1 o.fuel j b hb (wf.rank_fuel _ _ hb)
    obtain ⟨pa, rfl, hca, -⟩ := hsa.of_exists ((Chain.iff_path.1 hx.1).imp fun _ h => h.1)
    obtain ⟨pb, rfl, hcb, -⟩ := hsb.of_exists ((Chain.iff_path.1 hy.1).imp fun _ h => h.1)
    obtain ⟨hw, hl, hlen⟩ := join_spec wf hij hca hcb
    refine ⟨some (pushLast (pa ++ pb.reverse.drop 1) j),
      by simp [pathToTerm, hm, joinPaths, hra, hrb, Onto.get_id hb], ?_, fun p hp => by cases hp; exact ⟨hw, hl⟩⟩
    rw [hd, Option.map_some, Option.map_some, hlen, ← hx.unique hsa.shortest, ← hy.unique hsb.shortest, ← hes]


/-! ### a decidable sufficient check for `PathWF` (used for the non-vacuity examples) -/

def grandSets (o : Onto) (ps : List Nat) : List Nat :=
  ps.flatMap fun p => ((o.get p).map (·.allParents)).getD []

/-- local closure equation: `all_parents(t) = parents(t) ∪ ⋃ all_parents(p)` as sets -/
def localClosed (o : Onto) (t : Term) : Bool :=
  t.allParents.all (fun a => (t.parents ++ grandSets o t.parents).elem a) &&
  (t.parents ++ grandSets o t.parents).all (fun a => t.allParents.elem a)

def pathWFCheck (o : Onto) (rank : Nat → Nat) : Bool :=
  o.terms.all fun t =>
    t.parents.all (fun p => (o.get p).isSome && decide (rank p < rank t.id))
    && localClosed o t && decide (rank t.id < o.fuel)

theorem mem_grandSets {o : Onto} {a : Nat} {ps : List Nat} :
    a ∈ grandSets o ps ↔ ∃ p ∈ ps, ∃ tp, o.get p = some tp ∧ a ∈ tp.allParents := by
  simp only [grandSets, List.mem_flatMap]
  refine exists_congr fun p => and_congr_right fun _ => ?_
  cases o.get p with
  | none => exact ⟨fun h => (nomatch h), by rintro ⟨_, h, _⟩; cases h⟩
  | some tp => exact ⟨fun h => ⟨tp, rfl, h⟩, by rintro ⟨_, e, h⟩; cases e; exact h⟩

theorem pathWF_of_check {o : Onto} {rank : Nat → Nat} (h : pathWFCheck o rank = true) : PathWF o rank := by
  simp only [pathWFCheck, localClosed, List.all_eq_true, Bool.and_eq_true, decide_eq_true_eq,
    List.elem_eq_mem, List.mem_append, mem_grandSets, Option.isSome_iff_exists] at h
  have H := fun i t (hg : o.get i = some t) => Onto.get_id hg ▸ h t (Onto.get_mem hg)
  have hres : ∀ i t, o.get i = some t → ∀ p ∈ t.parents, ∃ tp, o.get p = some tp :=
    fun i t hg p hp => ((H i t hg).1.1 p hp).1
  have hrk : ∀ i t, o.get i = some t → ∀ p ∈ t.parents, rank p < rank i :=
    fun i t hg p hp => ((H i t hg).1.1 p hp).2
  have hloc : ∀ i t, o.get i = some t → ∀ a, a ∈ t.allParents ↔
      (a ∈ t.parents ∨ ∃ p ∈ t.parents, ∃ tp, o.get p = some tp ∧ a ∈ tp.allParents) :=
    fun i t hg a => ⟨(H i t hg).1.2.1 a, (H i t hg).1.2.2 a⟩
  refine ⟨hres, ?_, hrk, fun i t hg => (H i t hg).2⟩
  intro i
  induction hr : rank i using Nat.strongRecOn generalizing i with
  | _ r ih =>
    intro t hg a
    rw [hloc i t hg a]
    constructor
    · rintro (hp | ⟨p, hp, tp, hgp, ha⟩)
      · exact ⟨0, Chain.step (by rw [Onto.par_eq hg]; exact hp) (Chain.refl _)⟩
      · obtain ⟨n, hn⟩ := (ih (rank p) (hr ▸ hrk i t hg p hp) p rfl tp hgp a).1 ha
        exact ⟨n + 1, Chain.step (by rw [Onto.par_eq hg]; exact hp) hn⟩
    · rintro ⟨n, hn⟩
      obtain ⟨p, hp, hc⟩ := Chain.succ_iff.1 hn
      rw [Onto.par_eq hg] at hp
      cases n with
      | zero => left; rw [← Chain.zero_iff.1 hc]; exact hp
      | succ n =>
        right
        obtain ⟨tp, hgp⟩ := hres i t hg p hp
        exact ⟨p, hp, tp, hgp, (ih (rank p) (hr ▸ hrk i t hg p hp) p rfl tp hgp a).2 ⟨n, hc⟩⟩
/-! ### the 7-term DAG of the shortcut counterexample

`10 → 11 → 12 → 13 → 14 → 15` (a chain of 5 parent links) and the shared parent `16` of `10` and `15`:
`15` is an ancestor of `10`, yet the shortest route from `10` to `15` has 2 steps (over `16`). -/

def dag7Terms : List Term :=
  [ { id := 10, name := [], parents := [11, 16], allParents := [11, 12, 13, 14, 15, 16] },
    { id := 11, name := [], parents := [12], allParents := [12, 13, 14, 15, 16], children := [10] },
    { id := 12, name := [], parents := [13], allParents := [13, 14, 15, 16], children := [11] },
    { id := 13, name := [], parents := [14], allParents := [14, 15, 16], children := [12] },
    { id := 14, name := [], parents := [15], allParents := [15, 16], children := [13] },
    { id := 15, name := [], parents := [16], allParents := [16], children := [14] },
    { id := 16, name := [], children := [10, 15] } ]

def dag7 : Onto := { terms := dag7Terms }

def dag7Rank (i : Nat) : Nat := 16 - i

theorem dag7_wf : PathWF dag7 dag7Rank := pathWF_of_check (by decide)

end Hpo
