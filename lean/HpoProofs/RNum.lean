import HpoProofs.NumReal
import HpoProofs.Rounded
/-!
The two proof instances of the numeric interface under one description, so that the sign / order /
definedness arguments about the model are written once.  `log` is not part of it; the value of the
information content over `ℝ` (`icValue_real`, `neg_log_ratio_nonneg`) and C03's and C13's summary
for both instances (`icValue_pos_counts`) close the file.
-/
namespace Hpo

/-- A value is a real number `val x`, and every operation is the real operation followed by the
rounding of the regime `R` (`Rounding.exact` for `ℝ`).  `val` is `id` at `ℝ` and `RVal.v` at
`RVal R`, both by `rfl`, so a statement about `val` IS the statement about `x` resp. `x.v`.
There is no `val_log`: `log` occurs in `icValue` only, which is treated per instance (`icValue_real`
below, `icValue_rounded` in `Rounded.lean`). -/
class RNum (F : Type) [Num F] where
  R : Rounding
  val : F → ℝ
  val_inj : ∀ {a b : F}, val a = val b → a = b
  val_ofNat : ∀ n : ℕ, val (Num.ofNat n) = R.rnd n
  val_add : ∀ a b, val (Num.add a b) = R.rnd (val a + val b)
  val_sub : ∀ a b, val (Num.sub a b) = R.rnd (val a - val b)
  val_mul : ∀ a b, val (Num.mul a b) = R.rnd (val a * val b)
  map_div? : ∀ a b : F, (Num.div? a b).map val = if val b = 0 then none else some (R.rnd (val a / val b))
  val_exp : ∀ a, val (Num.exp a) = R.ex (val a)
  val_neg : ∀ a, val (Num.neg a) = R.rnd (val a * (-1))
  isZero_eq : ∀ a : F, Num.isZero a = decide (val a = 0)
  lt_eq : ∀ a b : F, Num.lt a b = decide (val a < val b)
  isNaN_eq : ∀ a : F, Num.isNaN a = false

noncomputable instance (R : Rounding) : RNum (RVal R) where
  R := R
  val := RVal.v
  val_inj := RVal.ext'
  val_ofNat _ := rfl
  val_add _ _ := rfl
  val_sub _ _ := rfl
  val_mul _ _ := rfl
  map_div? a b := by rw [NumR.div?_eq]; split <;> rfl
  val_exp _ := rfl
  val_neg _ := rfl
  isZero_eq _ := rfl
  lt_eq _ _ := rfl
  isNaN_eq _ := rfl

noncomputable instance : RNum ℝ where
  R := Rounding.exact
  val := id
  val_inj := id
  val_ofNat _ := rfl
  val_add _ _ := rfl
  val_sub _ _ := rfl
  val_mul _ _ := rfl
  map_div? a b := by by_cases h : b = 0 <;> simp [NumReal.div?_eq, h, Rounding.exact]
  val_exp _ := rfl
  val_neg a := (mul_neg_one a).symm
  isZero_eq _ := rfl
  lt_eq _ _ := rfl
  isNaN_eq _ := rfl

theorem foldl_sel_mem {α : Type} {s : α → α → α} (hs : ∀ a b, s a b = a ∨ s a b = b) (l : List α)
    (a : α) : l.foldl s a = a ∨ l.foldl s a ∈ l := by
  induction l generalizing a with
  | nil => exact Or.inl rfl
  | cons b bs ih =>
    rcases ih (s a b) with h | h
    · rcases hs a b with e | e
      · left; rw [List.foldl_cons, h, e]
      · right; rw [List.foldl_cons, h, e]; exact List.mem_cons_self
    · right; exact List.mem_cons_of_mem _ h

namespace RNum

variable {F : Type} [Num F] [RNum F]

@[simp] theorem val_zero : val (Num.ofNat 0 : F) = 0 := by rw [val_ofNat]; simp
@[simp] theorem val_one : val (Num.ofNat 1 : F) = 1 := by rw [val_ofNat]; simp
@[simp] theorem val_two : val (Num.ofNat 2 : F) = 2 := by
  rw [val_ofNat]; exact_mod_cast (R F).rnd_two

theorem val_ofNat_nonneg (n : ℕ) : 0 ≤ val (Num.ofNat n : F) := by
  rw [val_ofNat]; exact (R F).rnd_nat_nonneg n

theorem one_le_val_ofNat {n : ℕ} (h : 0 < n) : 1 ≤ val (Num.ofNat n : F) := by
  rw [val_ofNat]; exact (R F).one_le_rnd_nat h

theorem val_ofNat_small {n : ℕ} (h : n ≤ 2 ^ 24) : val (Num.ofNat n : F) = n := by
  rw [val_ofNat]; exact (R F).natCast n h

theorem val_add_nonneg {a b : F} (ha : 0 ≤ val a) (hb : 0 ≤ val b) : 0 ≤ val (Num.add a b) := by
  rw [val_add]; exact (R F).rnd_nonneg (_root_.add_nonneg ha hb)

theorem val_add_le_add {a b c d : F} (h1 : val a ≤ val c) (h2 : val b ≤ val d) :
    val (Num.add a b) ≤ val (Num.add c d) := by
  rw [val_add, val_add]; exact (R F).mono (add_le_add h1 h2)

theorem one_le_val_add {a b : F} (h : 1 ≤ val a + val b) : 1 ≤ val (Num.add a b) := by
  rw [val_add]; exact (R F).one_le_rnd h

theorem val_mul_nonneg {a b : F} (ha : 0 ≤ val a) (hb : 0 ≤ val b) : 0 ≤ val (Num.mul a b) := by
  rw [val_mul]; exact (R F).rnd_nonneg (_root_.mul_nonneg ha hb)

theorem val_sub_nonneg {a b : F} (h : val b ≤ val a) : 0 ≤ val (Num.sub a b) := by
  rw [val_sub]; exact (R F).rnd_nonneg (sub_nonneg.2 h)

theorem val_neg_nonpos {a : F} (ha : 0 ≤ val a) : val (Num.neg a) ≤ 0 := by
  rw [val_neg]; exact (R F).rnd_nonpos (mul_nonpos_of_nonneg_of_nonpos ha (by norm_num))

theorem val_exp_le_one {a : F} (ha : val a ≤ 0) : val (Num.exp a) ≤ 1 := by
  rw [val_exp]; exact (R F).ex_le_one _ ha

protected theorem add_comm (a b : F) : Num.add a b = Num.add b a :=
  val_inj (by rw [val_add, val_add, _root_.add_comm])

theorem div?_eq_some (a : F) {b : F} (hb : val b ≠ 0) :
    ∃ q, Num.div? a b = some q ∧ val q = (R F).rnd (val a / val b) := by
  have h := map_div? a b
  rw [if_neg hb] at h
  exact Option.map_eq_some_iff.1 h

/-- every denominator of the similarity and combiner formulas is handled by this -/
theorem div?_pos (a : F) {b : F} (hb : 0 < val b) :
    ∃ q, Num.div? a b = some q ∧ (0 ≤ val a → 0 ≤ val q) ∧ (val a ≤ val b → val q ≤ 1) := by
  obtain ⟨q, hq, hv⟩ := div?_eq_some a hb.ne'
  refine ⟨q, hq, fun ha => ?_, fun hab => ?_⟩
  · rw [hv]; exact (R F).rnd_nonneg (div_nonneg ha hb.le)
  · rw [hv]; exact (R F).rnd_le_one ((div_le_one hb).2 hab)

theorem one_div? {d : F} (hd : 1 ≤ val d) :
    ∃ q, Num.div? (Num.ofNat 1) d = some q ∧ 0 ≤ val q ∧ val q ≤ 1 := by
  obtain ⟨q, hq, h0, h1⟩ := div?_pos (Num.ofNat 1) (zero_lt_one.trans_le hd)
  exact ⟨q, hq, h0 (val_ofNat_nonneg 1), h1 (val_one.le.trans hd)⟩

theorem guarded_div? (a : F) {b : F} (hb : 0 ≤ val b) :
    ∃ q, (if Num.isZero b then some (Num.ofNat 0) else Num.div? a b) = some q ∧
      (0 ≤ val a → 0 ≤ val q) := by
  rw [isZero_eq]
  by_cases hz : val b = 0
  · exact ⟨_, if_pos (decide_eq_true hz), fun _ => val_zero.ge⟩
  · obtain ⟨q, hq, h0, _⟩ := div?_pos a (lt_of_le_of_ne hb (Ne.symm hz))
    exact ⟨q, (if_neg (by rwa [decide_eq_true_eq])).trans hq, h0⟩

/-- "sel": a binary function that returns one of its two arguments (`foldl_sel_mem`); here the larger
one by `Num.lt`, so that folding it is a running maximum (`le_foldl_sel`, `mem_le_foldl_sel`).  The
two maximum loops are such folds: `Sim.maxGo` (Resnik) in this orientation, `Combine.maxGo` (row and
column maxima) with the comparison the other way round (`Combine.val_sel'`), each as in the Rust code. -/
theorem val_sel (a b : F) : val (if Num.lt a b then b else a) = max (val a) (val b) := by
  rw [lt_eq]
  by_cases h : val a < val b
  · rw [decide_eq_true h, if_pos rfl, max_eq_right h.le]
  · rw [decide_eq_false h, if_neg Bool.false_ne_true, max_eq_left (not_lt.1 h)]

theorem foldl_add_nonneg (l : List F) (hl : ∀ x ∈ l, 0 ≤ val x) (acc : F) (hacc : 0 ≤ val acc) :
    0 ≤ val (l.foldl Num.add acc) := by
  induction l generalizing acc with
  | nil => exact hacc
  | cons x xs ih =>
    exact ih (fun y hy => hl y (List.mem_cons_of_mem _ hy)) _
      (val_add_nonneg hacc (hl x List.mem_cons_self))

/-- the rounded partial sums of numbers ≤ 1 never exceed the number of summands (an integer
below `2^24`, hence representable) -/
theorem foldl_add_le (l : List F) (hl : ∀ x ∈ l, val x ≤ 1) (acc : F) (k : ℕ) (hacc : val acc ≤ k)
    (hk : k + l.length ≤ 2 ^ 24) : val (l.foldl Num.add acc) ≤ (k + l.length : ℕ) := by
  induction l generalizing acc k with
  | nil => exact hacc
  | cons x xs ih =>
    rw [List.length_cons, ← Nat.add_assoc, Nat.add_right_comm] at hk ⊢
    refine ih (fun y hy => hl y (List.mem_cons_of_mem _ hy)) _ (k + 1) ?_ hk
    rw [val_add]
    refine (R F).rnd_le_nat (Nat.le_of_add_right_le hk) ?_
    rw [Nat.cast_succ]
    exact add_le_add hacc (hl x List.mem_cons_self)

section sel
variable {s : F → F → F}

theorem le_foldl_sel (hv : ∀ a b, val (s a b) = max (val a) (val b)) (l : List F) (a : F) :
    val a ≤ val (l.foldl s a) := by
  induction l generalizing a with
  | nil => exact le_refl _
  | cons b bs ih => exact le_trans (by rw [hv]; exact le_max_left _ _) (ih (s a b))

theorem mem_le_foldl_sel (hv : ∀ a b, val (s a b) = max (val a) (val b)) (l : List F) (a x : F)
    (hx : x ∈ l) : val x ≤ val (l.foldl s a) := by
  induction l generalizing a with
  | nil => cases hx
  | cons b bs ih =>
    rcases List.mem_cons.1 hx with rfl | h
    · exact le_trans (by rw [hv]; exact le_max_right _ _) (le_foldl_sel hv bs (s a x))
    · exact ih (s a b) h

end sel

end RNum

theorem icValue_real {total cur : ℕ} (hc : 0 < cur) (ht : 0 < total) :
    (icValue (cur, total) : Option ℝ) = some (-Real.log ((cur : ℝ) / total)) := by
  rw [icValue, if_neg fun h => h.elim (Nat.ne_of_gt ht) (Nat.ne_of_gt hc)]
  show (Num.div? (cur : ℝ) (total : ℝ)).map _ = _
  rw [NumReal.div?_of_ne _ (Nat.cast_ne_zero.2 (Nat.ne_of_gt ht))]
  rfl

theorem neg_log_ratio_nonneg {total cur : ℕ} (hc : 0 < cur) (hle : cur ≤ total) :
    0 ≤ -Real.log ((cur : ℝ) / total) := by
  have hT : (0 : ℝ) < total := Nat.cast_pos.2 (Nat.lt_of_lt_of_le hc hle)
  have hC : (0 : ℝ) < cur := Nat.cast_pos.2 hc
  exact neg_nonneg.2 (Real.log_nonpos (div_pos hC hT).le (div_le_one_of_le₀ (Nat.cast_le.2 hle) hT.le))

theorem icValue_pos_counts {total cur : ℕ} (hc : 0 < cur) (hle : cur ≤ total) (ht : total ≤ 65535) :
    (icValue (cur, total) : Option ℝ) = some (-Real.log ((cur : ℝ) / total)) ∧
    0 ≤ -Real.log ((cur : ℝ) / total) ∧
    ∀ R : Rounding, ∃ v, (icValue (cur, total) : Option (RVal R)) = some v ∧ 0 ≤ v.v := by
  refine ⟨icValue_real hc (Nat.lt_of_lt_of_le hc hle), neg_log_ratio_nonneg hc hle,
    fun R => ⟨_, icValue_rounded R hc hle ht, ?_⟩⟩
  obtain ⟨hp, h1⟩ := ratio_bounds R hc hle ht
  exact R.rnd_nonneg (mul_nonneg_of_nonpos_of_nonpos (R.lg_nonpos hp h1) (by norm_num))
end Hpo
