import HpoProofs.LoadRefine
import HpoProofs.SubOntologyRun
/-!
`Reachable` (the class of ontologies of C07) and `sub_ontology` (C14). A `Reachable` ontology is well
formed in the sense of the path functions (`PathWF`, the hypothesis of the C14 theorems about the SOURCE
ontology), the rank being the number of ancestors. A successful `sub_ontology` call is a builder run
ending in `build_minimal` (`subOntology_run`); with `build_with_defaults` in its place
(`set_default_categories` / `set_default_modifier` on the result) it is `Reachable` again.
-/
namespace Hpo
namespace Binary

theorem Reachable.pathWF {o : Onto} (h : Reachable o) :
    PathWF o (fun j => (allOf o.terms j).length) :=
  h.built.pathWF

theorem reachable_subOntology {o : Onto} {rank : Nat → Nat} (wf : PathWF o rank) {root : Term}
    {leaves : List Term} (hl : ∀ l ∈ leaves, o.get l.id = some l) {o' d : Onto}
    (h : o.subOntology root leaves = .ok o') (hd : o'.buildWithDefaults = .ok d) : Reachable d := by
  obtain ⟨ids, tops, aops, b2, b3, b7, _, hrun, _, hac, hc, _, h7, rfl⟩ := subOntology_run wf hl h
  have hd' : b7.buildWithDefaults = .ok d := hd
  exact reachable_of_builder tops b2 b3 hrun hac hc aops b7 d h7 hd'

end Binary
end Hpo
