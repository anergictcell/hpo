import HpoModel.Read
import HpoProofs.Arena
/-! The lemmas of the small read functions of `HpoModel/Read.lean` (ancestor queries of two terms,
`is_modifier`, `categories`, `term::Iter`); core Lean only.  The path functions are in `Path.lean`. -/
namespace Hpo
open Group

namespace Term

theorem mem_allCommonAncestorIds (a b : Term) (c : Nat) :
    c ∈ a.allCommonAncestorIds b ↔ (c = a.id ∨ c ∈ a.allParents) ∧ (c = b.id ∨ c ∈ b.allParents) := by
  simp only [allCommonAncestorIds, allInclusive, mem_bitand, mem_addId]

theorem mem_unionAncestorIds (a b : Term) (c : Nat) :
    c ∈ a.unionAncestorIds b ↔ c ∈ a.allParents ∨ c ∈ b.allParents :=
  mem_bitor _ _ c

theorem sorted_allCommonAncestorIds (a b : Term) (ha : Sorted a.allParents) (hb : Sorted b.allParents) :
    Sorted (a.allCommonAncestorIds b) :=
  sorted_bitand _ _ (sorted_addId _ _ ha) (sorted_addId _ _ hb)

theorem sorted_unionAncestorIds (a b : Term) (ha : Sorted a.allParents) (hb : Sorted b.allParents) :
    Sorted (a.unionAncestorIds b) :=
  sorted_bitor _ _ ha hb

theorem allCommonAncestorIds_comm (a b : Term) (ha : Sorted a.allParents) (hb : Sorted b.allParents) :
    a.allCommonAncestorIds b = b.allCommonAncestorIds a :=
  bitand_comm _ _ (sorted_addId _ _ ha) (sorted_addId _ _ hb)

theorem unionAncestorIds_comm (a b : Term) (ha : Sorted a.allParents) (hb : Sorted b.allParents) :
    a.unionAncestorIds b = b.unionAncestorIds a :=
  bitor_comm _ _ ha hb

end Term

namespace Onto

theorem resolve_ids {o : Onto} {l : List Nat} {ts : List Term} (h : o.resolve l = some ts) :
    ts.map (·.id) = l := by
  induction l generalizing ts with
  | nil => cases h; rfl
  | cons a l ih =>
    rw [resolve] at h
    split at h
    · cases h
    · rename_i t hg
      obtain ⟨ts', hr, rfl⟩ := Option.map_eq_some_iff.1 h
      rw [List.map_cons, ih hr, get_id hg]

theorem isModifier_iff (o : Onto) (t : Term) :
    o.isModifier t = true ↔ ∃ m ∈ o.modifier, m = t.id ∨ m ∈ t.allParents := by
  simp only [isModifier, List.any_eq_true, contains_iff, mem_addId]

theorem mem_categoriesOf (o : Onto) (t : Term) (c : Nat) :
    c ∈ o.categoriesOf t ↔ c ∈ o.categories ∧ (c = t.id ∨ c ∈ t.allParents) := by
  simp only [categoriesOf, List.mem_filter, contains_iff, mem_addId]

theorem categoriesOf_sublist (o : Onto) (t : Term) : (o.categoriesOf t).Sublist o.categories :=
  List.filter_sublist

end Onto
end Hpo
