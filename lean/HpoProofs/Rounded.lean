import Mathlib.Analysis.SpecialFunctions.Log.Basic
import HpoModel.Num
/-!
# A second proof instance of the numeric interface: ANY correctly-rounding arithmetic

`HpoProofs/NumReal.lean` evaluates the `[Num F]`-generic model at the exact field `ℝ`.  Here the
same model functions are evaluated at `RVal R`: real numbers with EVERY arithmetic result passed
through a rounding function `R.rnd`, and with a library logarithm / exponential `R.lg` / `R.ex`
that are NOT assumed to be exact.  `R : Rounding` is a structure of explicit hypotheses (no
axioms): each field is a property that IEEE-754 arithmetic in a fixed rounding direction
(round-to-nearest-even, but also the directed modes) with a monotone libm satisfies as long as no
operation overflows; the theorems `*_rounded` in `HpoProps/C03…C05` hold for every such `R`.
The file ends with the value of the information content at `RVal R` (`ratio_bounds`,
`icValue_rounded`), the one place where a logarithm is taken.

What stays trusted after these theorems: that the machine's `f32` / `f64` arithmetic with the
platform's `logf` / `expf` IS such an `R` on the values that occur (no overflow, no NaN input).
-/
namespace Hpo

/-- A rounding regime.  Reading for IEEE-754 binary32 (binary64 analogously), finite range:

* `rnd x` = the representable number the exact result `x` of `+ - * /` (or of an integer
  conversion) is rounded to;
* `mono`: rounding in a fixed direction is monotone;
* `natCast`: integers up to `2^24` are representable (binary64: up to `2^53`);
* `pos_of_normal`: a result of at least the smallest positive normal number `2^-126` is not
  flushed to zero (no underflow to 0 in the normal range; binary64: `2^-1022`); needed by
  `ratio_bounds` alone, for the argument of the logarithm in `icValue`;
* `lg`, `ex`: what the library `ln` / `exp` return.  NOT assumed exact or correctly rounded; only
  `lg` monotone on the positive numbers with `lg 1 = 0` (C Annex F: `log(1) = +0`) and
  `ex x ≤ 1` for `x ≤ 0` (a monotone `exp` with `exp(±0) = 1`, C Annex F).

Idempotence of `rnd`, sign symmetry `rnd (-x) = -rnd x` and representability of the results of
`lg` / `ex` also hold for IEEE arithmetic but are not needed by any theorem, so they are not
assumed (the theorems therefore cover the directed rounding modes as well). -/
structure Rounding where
  rnd : ℝ → ℝ
  mono : Monotone rnd
  natCast : ∀ n : ℕ, n ≤ 2 ^ 24 → rnd (n : ℝ) = n
  pos_of_normal : ∀ x : ℝ, ((2 : ℝ)⁻¹) ^ 126 ≤ x → 0 < rnd x
  lg : ℝ → ℝ
  lg_mono : MonotoneOn lg (Set.Ioi 0)
  lg_one : lg 1 = 0
  ex : ℝ → ℝ
  ex_le_one : ∀ x, x ≤ 0 → ex x ≤ 1

namespace Rounding
variable (R : Rounding)

@[simp] theorem rnd_zero : R.rnd 0 = 0 := by
  have := R.natCast 0 (Nat.zero_le _); rwa [Nat.cast_zero] at this
@[simp] theorem rnd_one : R.rnd 1 = 1 := by
  have := R.natCast 1 (by decide); rwa [Nat.cast_one] at this
@[simp] theorem rnd_two : R.rnd 2 = 2 := by
  have := R.natCast 2 (by decide); rwa [Nat.cast_ofNat] at this

theorem rnd_nonneg {x : ℝ} (h : 0 ≤ x) : 0 ≤ R.rnd x := by
  have := R.mono h; rwa [R.rnd_zero] at this

theorem rnd_nonpos {x : ℝ} (h : x ≤ 0) : R.rnd x ≤ 0 := by
  have := R.mono h; rwa [R.rnd_zero] at this

theorem rnd_le_one {x : ℝ} (h : x ≤ 1) : R.rnd x ≤ 1 := by
  have := R.mono h; rwa [R.rnd_one] at this

theorem one_le_rnd {x : ℝ} (h : 1 ≤ x) : 1 ≤ R.rnd x := by
  have := R.mono h; rwa [R.rnd_one] at this

theorem rnd_pos_of_one_le {x : ℝ} (h : 1 ≤ x) : 0 < R.rnd x :=
  lt_of_lt_of_le zero_lt_one (R.one_le_rnd h)

theorem rnd_le_two {x : ℝ} (h : x ≤ 2) : R.rnd x ≤ 2 := by
  have := R.mono h; rwa [R.rnd_two] at this

theorem rnd_nat_nonneg (n : ℕ) : 0 ≤ R.rnd (n : ℝ) := R.rnd_nonneg (Nat.cast_nonneg n)

theorem one_le_rnd_nat {n : ℕ} (h : 0 < n) : 1 ≤ R.rnd (n : ℝ) :=
  R.one_le_rnd (Nat.one_le_cast.2 h)

/-- what passes the code's `u16` guard is within the range of `natCast` -/
theorem u16_le {n : ℕ} (h : n ≤ 65535) : n ≤ 2 ^ 24 := h.trans (by decide)

theorem rnd_le_nat {x : ℝ} {n : ℕ} (hn : n ≤ 2 ^ 24) (h : x ≤ n) : R.rnd x ≤ n := by
  have := R.mono h; rwa [R.natCast n hn] at this

theorem nat_le_rnd {x : ℝ} {n : ℕ} (hn : n ≤ 2 ^ 24) (h : (n : ℝ) ≤ x) : (n : ℝ) ≤ R.rnd x := by
  have := R.mono h; rwa [R.natCast n hn] at this

theorem lg_nonpos {x : ℝ} (h0 : 0 < x) (h1 : x ≤ 1) : R.lg x ≤ 0 := by
  have := R.lg_mono (Set.mem_Ioi.2 h0) (Set.mem_Ioi.2 zero_lt_one) h1
  rwa [R.lg_one] at this

/-- the exact arithmetic is a rounding regime: the theorems over `Rounding` are not vacuous, and
they contain the sign / order / symmetry clauses of the theorems over `ℝ` as a special case
(`ℝ` is an `RNum` with this regime, `HpoProofs/RNum.lean`) -/
noncomputable def exact : Rounding where
  rnd := id
  mono := monotone_id
  natCast := fun _ _ => rfl
  pos_of_normal := fun x h => lt_of_lt_of_le (by positivity) h
  lg := Real.log
  lg_mono := fun _ hx _ _ hxy => Real.log_le_log hx hxy
  lg_one := Real.log_one
  ex := Real.exp
  ex_le_one := fun _ h => Real.exp_le_one_iff.2 h

noncomputable def gridRnd (x : ℝ) : ℝ := (⌊x * 2 ^ 126⌋ : ℝ) / 2 ^ 126

theorem grid_step_pos : (0 : ℝ) < 2 ^ 126 := by positivity

theorem gridRnd_mono : Monotone gridRnd := by
  intro x y h
  unfold gridRnd
  apply div_le_div_of_nonneg_right _ grid_step_pos.le
  exact Int.cast_le.2 (Int.floor_le_floor (mul_le_mul_of_nonneg_right h grid_step_pos.le))

theorem gridRnd_nat (n : ℕ) : gridRnd (n : ℝ) = n := by
  unfold gridRnd
  have : ((n : ℝ) * 2 ^ 126) = ((n * 2 ^ 126 : ℕ) : ℝ) := by
    rw [Nat.cast_mul, Nat.cast_pow, Nat.cast_ofNat]
  rw [this, Int.floor_natCast, Int.cast_natCast, ← this, mul_div_assoc,
    div_self grid_step_pos.ne', mul_one]

theorem gridRnd_le (x : ℝ) : gridRnd x ≤ x := by
  unfold gridRnd
  rw [div_le_iff₀ grid_step_pos]
  exact Int.floor_le _

theorem gridRnd_pos (x : ℝ) (h : ((2 : ℝ)⁻¹) ^ 126 ≤ x) : 0 < gridRnd x := by
  rw [inv_pow, inv_le_iff_one_le_mul₀ grid_step_pos] at h
  exact div_pos (Int.cast_pos.2 (Int.floor_pos.2 h)) grid_step_pos

/-- a second, genuinely inexact regime: every result (also of `ln` / `exp`) is rounded down to a
multiple of `2^-126` -/
noncomputable def grid : Rounding where
  rnd := gridRnd
  mono := gridRnd_mono
  natCast := fun n _ => gridRnd_nat n
  pos_of_normal := gridRnd_pos
  lg := fun x => gridRnd (Real.log x)
  lg_mono := fun _ hx _ _ hxy => gridRnd_mono (Real.log_le_log hx hxy)
  lg_one := by simpa using gridRnd_nat 0
  ex := fun x => gridRnd (Real.exp x)
  ex_le_one := fun x h => by
    have := gridRnd_mono (Real.exp_le_one_iff.2 h)
    simpa using le_trans this (le_of_eq (by simpa using gridRnd_nat 1))

theorem grid_inexact : grid.rnd (((2 : ℝ)⁻¹) ^ 127) = 0 ∧ ((2 : ℝ)⁻¹) ^ 127 ≠ 0 := by
  refine ⟨?_, pow_ne_zero _ (inv_ne_zero two_ne_zero)⟩
  have e : ((2 : ℝ)⁻¹) ^ 127 * 2 ^ 126 = 2⁻¹ := by
    rw [pow_succ', inv_pow, mul_assoc, inv_mul_cancel₀ grid_step_pos.ne', mul_one]
  have : ⌊(2⁻¹ : ℝ)⌋ = 0 := Int.floor_eq_zero_iff.2 ⟨by norm_num, by norm_num⟩
  show gridRnd _ = 0
  rw [gridRnd, e, this, Int.cast_zero, zero_div]

end Rounding

/-- a value of the rounded arithmetic `R` (a wrapper of `ℝ`, so that the instance below does not
clash with `instNumReal`); NOT required to be representable: the theorems hold for arbitrary
real inputs, in particular for representable ones -/
structure RVal (R : Rounding) where
  v : ℝ

namespace RVal
variable {R : Rounding}

@[ext] theorem ext' {a b : RVal R} (h : a.v = b.v) : a = b := by
  cases a; cases b; cases h; rfl

end RVal

/-- the model's arithmetic at `RVal R`: every `+ - * /` and every integer conversion is followed
by `R.rnd`; `neg x` is `x * (-1.0)` as in the `Float32` / `Float` instances (`-1` is exact);
comparisons are exact; division is checked as over `ℝ` -/
noncomputable instance instNumRVal (R : Rounding) : Num (RVal R) where
  ofNat := fun n => ⟨R.rnd (n : ℝ)⟩
  add := fun a b => ⟨R.rnd (a.v + b.v)⟩
  sub := fun a b => ⟨R.rnd (a.v - b.v)⟩
  mul := fun a b => ⟨R.rnd (a.v * b.v)⟩
  div? := fun a b => if b.v = 0 then none else some ⟨R.rnd (a.v / b.v)⟩
  log := fun a => ⟨R.lg a.v⟩
  exp := fun a => ⟨R.ex a.v⟩
  neg := fun a => ⟨R.rnd (a.v * (-1))⟩
  isZero := fun a => decide (a.v = 0)
  lt := fun a b => decide (a.v < b.v)
  isNaN := fun _ => false

namespace NumR
variable {R : Rounding}

@[simp] theorem ofNat_v (n : Nat) : (Num.ofNat n : RVal R).v = R.rnd (n : ℝ) := rfl
@[simp] theorem add_v (a b : RVal R) : (Num.add a b).v = R.rnd (a.v + b.v) := rfl
@[simp] theorem sub_v (a b : RVal R) : (Num.sub a b).v = R.rnd (a.v - b.v) := rfl
@[simp] theorem mul_v (a b : RVal R) : (Num.mul a b).v = R.rnd (a.v * b.v) := rfl
@[simp] theorem neg_v (a : RVal R) : (Num.neg a).v = R.rnd (a.v * (-1)) := rfl
@[simp] theorem log_v (a : RVal R) : (Num.log a).v = R.lg a.v := rfl
@[simp] theorem exp_v (a : RVal R) : (Num.exp a).v = R.ex a.v := rfl
@[simp] theorem isZero_eq (a : RVal R) : Num.isZero a = decide (a.v = 0) := rfl
@[simp] theorem lt_eq (a b : RVal R) : Num.lt a b = decide (a.v < b.v) := rfl
@[simp] theorem isNaN_eq (a : RVal R) : Num.isNaN a = false := rfl
theorem div?_eq (a b : RVal R) :
    Num.div? a b = if b.v = 0 then none else some ⟨R.rnd (a.v / b.v)⟩ := rfl

theorem div?_of_ne (a : RVal R) {b : RVal R} (h : b.v ≠ 0) :
    Num.div? a b = some ⟨R.rnd (a.v / b.v)⟩ := by simp [div?_eq, h]

@[simp] theorem ofNat_zero_v : (Num.ofNat 0 : RVal R).v = 0 := by simp [R.rnd_zero]
@[simp] theorem ofNat_one_v : (Num.ofNat 1 : RVal R).v = 1 := by simp [R.rnd_one]
@[simp] theorem ofNat_two_v : (Num.ofNat 2 : RVal R).v = 2 := by
  have := R.rnd_two; simp only [ofNat_v]; exact_mod_cast this

theorem add_comm (a b : RVal R) : Num.add a b = Num.add b a := by
  apply RVal.ext'; simp [_root_.add_comm]

theorem mul_comm (a b : RVal R) : Num.mul a b = Num.mul b a := by
  apply RVal.ext'; simp [_root_.mul_comm]

theorem add_nonneg {a b : RVal R} (ha : 0 ≤ a.v) (hb : 0 ≤ b.v) : 0 ≤ (Num.add a b).v :=
  R.rnd_nonneg (_root_.add_nonneg ha hb)

theorem mul_nonneg {a b : RVal R} (ha : 0 ≤ a.v) (hb : 0 ≤ b.v) : 0 ≤ (Num.mul a b).v :=
  R.rnd_nonneg (_root_.mul_nonneg ha hb)

theorem neg_nonpos {a : RVal R} (ha : 0 ≤ a.v) : (Num.neg a).v ≤ 0 :=
  R.rnd_nonpos (by simp only [mul_neg, mul_one, Left.neg_nonpos_iff]; exact ha)

theorem neg_nonneg {a : RVal R} (ha : a.v ≤ 0) : 0 ≤ (Num.neg a).v :=
  R.rnd_nonneg (by simp only [mul_neg, mul_one, Left.nonneg_neg_iff]; exact ha)

theorem neg_le_neg {a b : RVal R} (h : a.v ≤ b.v) : (Num.neg b).v ≤ (Num.neg a).v :=
  R.mono (by simp only [mul_neg, mul_one, _root_.neg_le_neg_iff]; exact h)

theorem div?_nonneg {a b q : RVal R} (ha : 0 ≤ a.v) (hb : 0 ≤ b.v) (h : Num.div? a b = some q) :
    0 ≤ q.v := by
  rw [div?_eq] at h
  split at h
  · cases h
  · injection h with h; subst h; exact R.rnd_nonneg (div_nonneg ha hb)

end NumR

/-- `N ≤ 65535`, the code's `u16` guard on the counts, serves both magnitude hypotheses:
`1 / N ≥ 2^-16` for `pos_of_normal` here, `n, N ≤ 2^24` for `natCast` in `icValue_rounded` -/
theorem ratio_bounds (R : Rounding) {n N : ℕ} (hn : 0 < n) (h : n ≤ N) (hN : N ≤ 65535) :
    0 < R.rnd ((n : ℝ) / N) ∧ R.rnd ((n : ℝ) / N) ≤ 1 := by
  have hNp : (0 : ℝ) < N := Nat.cast_pos.2 (lt_of_lt_of_le hn h)
  refine ⟨R.pos_of_normal _ ?_, R.rnd_le_one ((div_le_one hNp).2 (Nat.cast_le.2 h))⟩
  have hN2 : (N : ℝ) ≤ 2 ^ 16 := (Nat.cast_le.2 hN).trans (by norm_num)
  calc ((2 : ℝ)⁻¹) ^ 126 ≤ ((2 : ℝ)⁻¹) ^ 16 :=
        pow_le_pow_of_le_one (by positivity) (by norm_num) (by norm_num)
    _ = 1 / 2 ^ 16 := by rw [inv_pow, one_div]
    _ ≤ 1 / N := one_div_le_one_div_of_le hNp hN2
    _ ≤ n / N := div_le_div_of_nonneg_right (Nat.one_le_cast.2 hn) hNp.le

theorem icValue_rounded (R : Rounding) {n N : ℕ} (hn : 0 < n) (h : n ≤ N) (hN : N ≤ 65535) :
    (icValue (n, N) : Option (RVal R)) =
      some ⟨R.rnd (R.lg (R.rnd ((n : ℝ) / N)) * (-1))⟩ := by
  have hN0 : N ≠ 0 := Nat.ne_of_gt (hn.trans_le h)
  have e1 : (Num.ofNat n : RVal R).v = n := R.natCast n (Rounding.u16_le (h.trans hN))
  have e2 : (Num.ofNat N : RVal R).v = N := R.natCast N (Rounding.u16_le hN)
  rw [icValue, if_neg fun h => h.elim hN0 (Nat.ne_of_gt hn),
    NumR.div?_of_ne _ (by rw [e2]; exact Nat.cast_ne_zero.2 hN0), e1, e2]
  rfl

end Hpo
