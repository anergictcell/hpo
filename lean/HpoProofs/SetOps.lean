import HpoProofs.Read
import HpoProofs.Counts
import HpoModel.SetOps
/-! Lemmas about the `HpoSet` model (`HpoModel/SetOps.lean`); core Lean only.

Every method but `child_nodes` walks the whole set through `term::Iter` (`iter`) and then computes
on the terms: `method o S = rmap F (iter o S)` for a pure `F`.  What `iter` returns is settled once
(`iter_eq`); results, panics and the in-place twins all follow from these equations. -/
namespace Hpo
namespace SetOps
open Group

/-- every member of the set is a term of the ontology (what `HpoSet` documents as its precondition:
"HpoTermId must be in Ontology") -/
def Resolves (o : Onto) (S : List Nat) : Prop := ∀ x ∈ S, (o.get x).isSome = true

instance (o : Onto) (S : List Nat) : Decidable (Resolves o S) := by unfold Resolves; infer_instance

theorem resolves_cons {o : Onto} {x : Nat} {xs : List Nat} :
    Resolves o (x :: xs) ↔ (o.get x).isSome = true ∧ Resolves o xs :=
  List.forall_mem_cons

theorem Resolves.get {o : Onto} {S : List Nat} (h : Resolves o S) {x : Nat} (hx : x ∈ S) :
    ∃ t, o.get x = some t :=
  Option.isSome_iff_exists.1 (h x hx)

theorem iter_cons (o : Onto) (x : Nat) (xs : List Nat) :
    iter o (x :: xs) = match o.get x with
      | none => .panic
      | some t => rmap (t :: ·) (iter o xs) := by
  cases hx : o.get x with
  | none => simp only [iter, Onto.resolve, hx]
  | some t => cases hr : o.resolve xs <;> simp only [iter, Onto.resolve, hx, hr, rmap, Option.map]

theorem iter_eq (o : Onto) (S : List Nat) :
    iter o S = if Resolves o S then .ok (S.filterMap o.get) else .panic := by
  induction S with
  | nil => simp [Resolves, iter, Onto.resolve]
  | cons x xs ih =>
    simp only [iter_cons, ih, resolves_cons, List.filterMap_cons]
    cases o.get x with
    | none => simp
    | some t => by_cases h : Resolves o xs <;> simp [h, rmap]

theorem iter_ok {o : Onto} {S : List Nat} (h : Resolves o S) : iter o S = .ok (S.filterMap o.get) := by
  rw [iter_eq, if_pos h]

theorem iter_panic {o : Onto} {S : List Nat} (h : ¬ Resolves o S) : iter o S = .panic := by
  rw [iter_eq, if_neg h]

theorem mem_resolved {o : Onto} {S : List Nat} {t : Term} :
    t ∈ S.filterMap o.get ↔ t.id ∈ S ∧ o.get t.id = some t := by
  rw [List.mem_filterMap]
  constructor
  · rintro ⟨y, hy, ht⟩
    rw [Onto.get_id ht]
    exact ⟨hy, ht⟩
  · rintro ⟨hy, ht⟩
    exact ⟨_, hy, ht⟩

theorem mem_filter_resolved {o : Onto} {S : List Nat} (h : Resolves o S) (p : Term → Bool) (x : Nat) :
    x ∈ ((S.filterMap o.get).filter p).map (·.id) ↔ x ∈ S ∧ ∀ t, o.get x = some t → p t = true := by
  simp only [List.mem_map, List.mem_filter, mem_resolved]
  constructor
  · rintro ⟨t, ⟨⟨hy, ht⟩, hp⟩, rfl⟩
    exact ⟨hy, fun u hu => by rw [ht] at hu; cases hu; exact hp⟩
  · rintro ⟨hx, hp⟩
    obtain ⟨t, ht⟩ := h.get hx
    obtain rfl := Onto.get_id ht
    exact ⟨t, ⟨⟨hx, ht⟩, hp t ht⟩, rfl⟩

theorem exists_mem_resolved {o : Onto} {S : List Nat} {p : Nat → Term → Prop} :
    (∃ t ∈ S.filterMap o.get, p t.id t) ↔ ∃ y ∈ S, ∃ t, o.get y = some t ∧ p y t := by
  constructor
  · rintro ⟨t, ht, hp⟩
    exact ⟨t.id, (mem_resolved.1 ht).1, t, (mem_resolved.1 ht).2, hp⟩
  · rintro ⟨y, hy, t, ht, hp⟩
    obtain rfl := Onto.get_id ht
    exact ⟨t, mem_resolved.2 ⟨hy, ht⟩, hp⟩

theorem modifierFilter_eq (o : Onto) (xs : List Nat) :
    modifierFilter o xs =
      rmap (fun ts => (ts.filter fun t => !o.isModifier t).map (·.id)) (iter o xs) := by
  induction xs with
  | nil => rfl
  | cons x xs ih =>
    rw [modifierFilter, iter_cons, ih]
    cases o.get x with
    | none => rfl
    | some t =>
      cases iter o xs with
      | ok ts =>
        simp only [rmap, List.filter_cons]
        cases o.isModifier t <;> rfl
      | _ => rfl

theorem obsoleteFilter_eq (o : Onto) (xs : List Nat) :
    obsoleteFilter o xs =
      rmap (fun ts => (ts.filter fun t => !t.obsolete).map (·.id)) (iter o xs) := by
  induction xs with
  | nil => rfl
  | cons x xs ih =>
    rw [obsoleteFilter, iter_cons, ih]
    cases hx : o.get x with
    | none => rfl
    | some t =>
      cases iter o xs with
      | ok ts =>
        simp only [rmap, List.filter_cons, ← Onto.get_id hx]
        cases t.obsolete <;> rfl
      | _ => rfl

theorem replaceMap_eq (o : Onto) (xs : List Nat) :
    replaceMap o xs = rmap (fun ts => ts.map fun t => t.replacement.getD t.id) (iter o xs) := by
  induction xs with
  | nil => rfl
  | cons x xs ih =>
    rw [replaceMap, iter_cons, ih]
    cases hx : o.get x with
    | none => rfl
    | some t =>
      cases iter o xs with
      | ok ts => simp only [rmap, List.map_cons, Onto.get_id hx]
      | _ => rfl

theorem annUnion_eq (o : Onto) (k : Kind) (xs acc : List Nat) :
    annUnion o k xs acc =
      rmap (fun ts => ts.foldl (fun a t => insertAll a (t.ann k)) acc) (iter o xs) := by
  induction xs generalizing acc with
  | nil => rfl
  | cons x xs ih =>
    rw [annUnion, iter_cons]
    cases o.get x with
    | none => rfl
    | some t => exact (ih _).trans (by cases iter o xs <;> rfl)

theorem categoriesAcc_eq (o : Onto) (xs : List Nat) (m : List (Nat × Nat)) :
    categoriesAcc o xs m =
      rmap (fun ts => ts.foldl (fun m t => bumpAll m (o.categoriesOf t)) m) (iter o xs) := by
  induction xs generalizing m with
  | nil => rfl
  | cons x xs ih =>
    rw [categoriesAcc, iter_cons]
    cases o.get x with
    | none => rfl
    | some t => exact (ih _).trans (by cases iter o xs <;> rfl)

theorem modifierFilterMut_eq (o : Onto) (xs : List Nat) : modifierFilterMut o xs = modifierFilter o xs := by
  induction xs with
  | nil => rfl
  | cons a xs ih => simp only [modifierFilterMut, modifierFilter, ih]

theorem obsoleteFilterMut_eq (o : Onto) (xs : List Nat) : obsoleteFilterMut o xs = obsoleteFilter o xs := by
  induction xs with
  | nil => rfl
  | cons a xs ih => simp only [obsoleteFilterMut, obsoleteFilter, ih]

theorem replaceMapMut_eq (o : Onto) (xs : List Nat) : replaceMapMut o xs = replaceMap o xs := by
  induction xs with
  | nil => rfl
  | cons a xs ih => simp only [replaceMapMut, replaceMap, ih]

/-! ### child_nodes: the inner `all` stops early, so it is total only on a set that resolves -/

theorem noDescendant_ok (o : Onto) (x : Nat) {S : List Nat} (h : Resolves o S) :
    noDescendant o x S = .ok ((S.filterMap o.get).all fun t => !Group.contains t.allParents x) := by
  induction S with
  | nil => rfl
  | cons y ys ih =>
    obtain ⟨hy, hys⟩ := resolves_cons.1 h
    obtain ⟨t, ht⟩ := Option.isSome_iff_exists.1 hy
    rw [noDescendant, List.filterMap_cons, ht, List.all_cons, ih hys]
    cases hc : Group.contains t.allParents x <;> simp [hc]

theorem childFilter_ok (o : Onto) {S : List Nat} (h : Resolves o S) (xs : List Nat) :
    childFilter o S xs = .ok (xs.filter fun x =>
      (S.filterMap o.get).all fun t => !Group.contains t.allParents x) := by
  induction xs with
  | nil => rfl
  | cons a xs ih =>
    rw [childFilter, noDescendant_ok o a h, ih, List.filter_cons]
    cases (S.filterMap o.get).all fun t => !Group.contains t.allParents a <;> rfl

theorem annUnion_ok {o : Onto} {S : List Nat} (h : Resolves o S) (k : Kind) :
    ∃ R, annUnion o k S [] = .ok R ∧ R.Nodup ∧
      ∀ g, g ∈ R ↔ ∃ y ∈ S, ∃ t, o.get y = some t ∧ g ∈ t.ann k := by
  refine ⟨_, by rw [annUnion_eq, iter_ok h]; rfl, (sorted_foldl_insertAll _ _ _ sorted_nil).nodup,
    fun g => ?_⟩
  rw [mem_foldl_insertAll, ← exists_mem_resolved (p := fun _ t => g ∈ t.ann k)]
  simp

/-! ### `categories` keeps the counter map of `calculate_counts` (`HpoModel/Hypergeom.lean`): its laws are
those of `HpoProofs/Counts.lean` -/

theorem bump_eq (m : List (Nat × Nat)) (c : Nat) : bump m c = Hypergeom.bump m c := by
  induction m with
  | nil => rfl
  | cons p m ih => simp only [bump, Hypergeom.bump, ih]

theorem bumpAll_eq (m : List (Nat × Nat)) (cs : List Nat) : bumpAll m cs = Hypergeom.bumpAll m cs := by
  induction cs generalizing m with
  | nil => rfl
  | cons c cs ih => simp only [bumpAll, Hypergeom.bumpAll, bump_eq, ih]

theorem count_eq (m : List (Nat × Nat)) (c : Nat) : count m c = (Hypergeom.getC m c).getD 0 := by
  induction m with
  | nil => rfl
  | cons p m ih =>
    simp only [count, Hypergeom.getC, ih]
    split <;> rfl

theorem count_bumpAll (m : List (Nat × Nat)) (cs : List Nat) (d : Nat) :
    count (bumpAll m cs) d = count m d + cs.count d := by
  rw [count_eq, count_eq, bumpAll_eq, Hypergeom.getC_bumpAll]
  split
  · rfl
  · rename_i h
    rw [not_or, Bool.not_eq_true, Option.isSome_eq_false_iff, Option.isNone_iff_eq_none] at h
    rw [h.1, List.count_eq_zero_of_not_mem h.2]
    rfl

theorem mem_keys_bumpAll (m : List (Nat × Nat)) (cs : List Nat) (d : Nat) :
    d ∈ (bumpAll m cs).map (·.1) ↔ d ∈ m.map (·.1) ∨ d ∈ cs := by
  rw [bumpAll_eq]
  show d ∈ Hypergeom.keys _ ↔ d ∈ Hypergeom.keys m ∨ _
  rw [← Hypergeom.getC_isSome_iff, ← Hypergeom.getC_isSome_iff, Hypergeom.getC_bumpAll]
  split
  · rename_i h
    exact iff_of_true rfl h
  · rename_i h
    exact iff_of_false (by simp) h

theorem count_bump (m : List (Nat × Nat)) (c d : Nat) :
    count (bump m c) d = count m d + (if c = d then 1 else 0) := by
  have h := count_bumpAll m [c] d
  simp only [List.count_singleton, beq_iff_eq] at h
  exact h

theorem mem_keys_bump (m : List (Nat × Nat)) (c d : Nat) :
    d ∈ (bump m c).map (·.1) ↔ d ∈ m.map (·.1) ∨ d = c := by
  have h := mem_keys_bumpAll m [c] d
  rw [List.mem_singleton] at h
  exact h

theorem count_foldl_bumpAll {α : Type} (f : α → List Nat) (ts : List α) (hf : ∀ t ∈ ts, (f t).Nodup)
    (m : List (Nat × Nat)) (c : Nat) :
    count (ts.foldl (fun m t => bumpAll m (f t)) m) c =
      count m c + ts.countP fun t => decide (c ∈ f t) := by
  induction ts generalizing m with
  | nil => rfl
  | cons t ts ih =>
    rw [List.foldl_cons, ih (fun u hu => hf u (List.mem_cons_of_mem _ hu)), count_bumpAll,
      (hf t List.mem_cons_self).count, List.countP_cons]
    simp only [decide_eq_true_eq]
    rw [Nat.add_assoc, Nat.add_comm (ite _ 1 0)]

theorem mem_keys_foldl_bumpAll {α : Type} (f : α → List Nat) (ts : List α) (m : List (Nat × Nat))
    (c : Nat) :
    c ∈ (ts.foldl (fun m t => bumpAll m (f t)) m).map (·.1) ↔
      c ∈ m.map (·.1) ∨ ∃ t ∈ ts, c ∈ f t := by
  induction ts generalizing m with
  | nil => simp
  | cons t ts ih =>
    simp only [List.foldl_cons, ih, mem_keys_bumpAll, List.mem_cons, exists_eq_or_imp, or_assoc]

end SetOps
end Hpo
