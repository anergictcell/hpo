import HpoProofs.RNum
import HpoProofs.Read
import HpoModel.Similarity
/-!
Helper lemmas for C04: the similarity model (`HpoModel/Similarity.lean`).

What does not depend on the arithmetic (the dispatch, the argument-order symmetry given a
commutative `+`) is proved for every numeric instance; the sign / range / definedness clauses are
proved once over `RNum`, i.e. for `ℝ` and for `RVal R` under every rounding regime `R` together:
the maximum fold of Resnik only COMPARES, every other formula is a composition of rounded operations,
each of which is monotone and fixes 0, 1 and 2.
-/
namespace Hpo
namespace Sim
open Hpo.Group RNum

section generic
variable {F : Type} [Num F]

theorem sumGo_eq_foldl (ic : Nat → F) (acc : F) (l : List Nat) :
    sumGo ic acc l = (l.map ic).foldl Num.add acc := by
  induction l generalizing acc with
  | nil => rfl
  | cons i is ih => exact ih _

theorem maxGo_eq_foldl (ic : Nat → F) (acc : F) (l : List Nat) :
    maxGo ic acc l = (l.map ic).foldl (fun m x => if Num.lt m x then x else m) acc := by
  induction l generalizing acc with
  | nil => rfl
  | cons i is ih => exact ih _

theorem resnik_attained (ic : Nat → F) (a b : Term) :
    resnik ic a b = Num.ofNat 0 ∨ ∃ c ∈ a.allCommonAncestorIds b, resnik ic a b = ic c := by
  rw [resnik, maxGo_eq_foldl]
  refine (foldl_sel_mem (fun m x => ?_) _ _).imp_right fun h => ?_
  · exact (ite_eq_or_eq _ _ _).symm
  · obtain ⟨c, hc, e⟩ := List.mem_map.1 h
    exact ⟨c, hc, e.symm⟩

/-- the value an algorithm computes from the observations of the two terms; `d` = the result of
`distance_to_term` -/
def score (alg : Alg) (k : Kind) (ic : Nat → F) (d : Option Nat) (a b : Term) : Option F :=
  match alg with
  | .graphIc => graphIc ic a b
  | .resnik => some (resnik ic a b)
  | .lin => lin ic a b
  | .jc => jc ic a b
  | .relevance => relevance ic a b
  | .infoCoef => infoCoef ic a b
  | .distance => distanceSim d
  | .mutation => mutation k a b

theorem of_defined {α : Type} {x : Option α} {P : α → Prop} (hd : ∃ w, x = some w ∧ P w) {v : α}
    (h : x = some v) : P v := by
  obtain ⟨w, hw, hP⟩ := hd
  cases hw.symm.trans h
  exact hP

theorem graphIc_self (ic : Nat → F) (a : Term) : graphIc ic a a = some (Num.ofNat 1) := if_pos rfl

theorem jc_self (ic : Nat → F) (a : Term) : jc ic a a = some (Num.ofNat 1) := if_pos rfl

theorem mutation_self (k : Kind) (a : Term) : (mutation k a a : Option F) = some (Num.ofNat 1) :=
  if_pos rfl

/-- the three kinds run the same quotient, on the annotation sets of the kind -/
theorem mutation_eq (k : Kind) (a b : Term) : (mutation k a b : Option F) =
    if a.id = b.id then some (Num.ofNat 1) else mutationDisease (a.ann k) (b.ann k) := by
  cases k <;> rfl

/-- whenever `<Builtins as Similarity>::calculate` returns, it returns the algorithm's `score`: the
dispatch adds panic checks only -/
theorem builtin_value (o : Onto) (alg : Alg) (k : Kind) (ic : Nat → F) (a b : Term) (r : Option F)
    (h : builtin o alg k ic a b = .ok r) :
    ∃ d, (alg = .distance → o.distToTerm a b = .ok d) ∧ r = score alg k ic d a b := by
  revert h
  fun_cases builtin o alg k ic a b
  all_goals rintro ⟨⟩
  -- the two `.ok` leaves of Distance: the similarity of the distance found on the way
  case case19 | case21 => exact ⟨_, fun _ => ‹_›, rfl⟩
  all_goals exact ⟨none, nofun, rfl⟩

/-! #### argument order: only `+` has to be commutative -/
section symm
variable (hadd : ∀ x y : F, Num.add x y = Num.add y x)
include hadd

theorem score_symm (alg : Alg) (k : Kind) (ic : Nat → F) (d : Option Nat) (a b : Term)
    (ha : Sorted a.allParents) (hb : Sorted b.allParents)
    (hka : Sorted (a.ann k)) (hkb : Sorted (b.ann k)) :
    score alg k ic d a b = score alg k ic d b a := by
  -- what the formulas read of `(a, b)`, each unchanged under the exchange
  have hc := a.allCommonAncestorIds_comm b ha hb
  have hu := a.unionAncestorIds_comm b ha hb
  have hid : (a.id = b.id) = (b.id = a.id) := propext eq_comm
  have hsum := hadd (ic a.id) (ic b.id)
  have hz := Bool.or_comm (Num.isZero (ic a.id)) (Num.isZero (ic b.id))
  have hor := bitor_comm _ _ hka hkb
  have hand := bitand_comm _ _ hka hkb
  cases alg <;>
    simp only [score, graphIc, lin, jc, jcDenom, relevance, infoCoef, resnik, mutation_eq,
      mutationDisease, hc, hu, hid, hsum, hz, hor, hand]

theorem builtin_symm (o : Onto) (alg : Alg) (k : Kind) (ic : Nat → F) (a b : Term)
    (hd : o.distToTerm a b = o.distToTerm b a)
    (ha : Sorted a.allParents) (hb : Sorted b.allParents)
    (hka : Sorted (a.ann k)) (hkb : Sorted (b.ann k)) :
    builtin o alg k ic a b = builtin o alg k ic b a := by
  have hs := score_symm hadd alg k ic none a b ha hb hka hkb
  cases alg
  case distance => simp only [builtin, hd]
  all_goals
    -- the value by `score_symm`; the guards read the same symmetric ingredients
    simp only [score] at hs
    simp only [builtin, hs, a.allCommonAncestorIds_comm b ha hb, a.unionAncestorIds_comm b ha hb,
      eq_comm (a := a.id), hadd (ic a.id), Bool.or_comm (Num.isZero (ic a.id)), bitor_comm _ _ hka hkb]

end symm
end generic

/-- ic of an ancestor never exceeds the ic of a term with positive ic (C03's monotonicity).
For `ic := icOf o k` on a built ontology it follows from `C03_count_facts` with `C03_monotone_counts`
(and `∀ i, 0 ≤ ic i` with `C03_nonneg`); no theorem carries that out: C04 takes both as hypotheses. -/
def Mono (ic : Nat → ℝ) (t : Term) : Prop := 0 < ic t.id → ∀ c ∈ t.allParents, ic c ≤ ic t.id

/-- the same for a table of rounded values (it holds for the rounded information content as well:
`C03_monotone_counts_rounded`) -/
def MonoR {R : Rounding} (ic : Nat → RVal R) (t : Term) : Prop :=
  0 < (ic t.id).v → ∀ c ∈ t.allParents, (ic c).v ≤ (ic t.id).v

section rnum
variable {F : Type} [Num F] [RNum F]

theorem sumIc_nonneg (ic : Nat → F) (hn : ∀ i, 0 ≤ val (ic i)) (l : List Nat) :
    0 ≤ val (sumIc ic l) := by
  rw [sumIc, sumGo_eq_foldl]
  exact foldl_add_nonneg _ (List.forall_mem_map.2 fun i _ => hn i) _ val_zero.ge

theorem resnik_nonneg (ic : Nat → F) (a b : Term) : 0 ≤ val (resnik ic a b) := by
  rw [resnik, maxGo_eq_foldl]
  exact val_zero.ge.trans (le_foldl_sel val_sel _ _)

theorem le_resnik (ic : Nat → F) (a b : Term) (c : Nat) (hc : c ∈ a.allCommonAncestorIds b) :
    val (ic c) ≤ val (resnik ic a b) := by
  rw [resnik, maxGo_eq_foldl]
  exact mem_le_foldl_sel val_sel _ _ _ (List.mem_map_of_mem hc)

theorem resnik_le_of (ic : Nat → F) (a b : Term) {x : ℝ} (h0 : 0 ≤ x)
    (h : ∀ c ∈ a.allCommonAncestorIds b, val (ic c) ≤ x) : val (resnik ic a b) ≤ x := by
  rcases resnik_attained ic a b with e | ⟨c, hc, e⟩
  · rw [e, val_zero]; exact h0
  · rw [e]; exact h c hc

/-- `Mono (fun i => val (ic i))` is `Mono ic` at `ℝ` and `MonoR ic` at `RVal R`, both by `rfl` -/
theorem resnik_le_left (ic : Nat → F) (a b : Term) (hm : Mono (fun i => val (ic i)) a)
    (hpos : 0 < val (ic a.id)) : val (resnik ic a b) ≤ val (ic a.id) :=
  resnik_le_of ic a b hpos.le fun c hc =>
    ((a.mem_allCommonAncestorIds b c).1 hc).1.elim (fun e => (congrArg (fun i => val (ic i)) e).le) (hm hpos c)

theorem resnik_le_right (ic : Nat → F) (a b : Term) (hm : Mono (fun i => val (ic i)) b)
    (hpos : 0 < val (ic b.id)) : val (resnik ic a b) ≤ val (ic b.id) :=
  resnik_le_of ic a b hpos.le fun c hc =>
    ((a.mem_allCommonAncestorIds b c).1 hc).2.elim (fun e => (congrArg (fun i => val (ic i)) e).le) (hm hpos c)

/-- the denominator is `rnd (rnd (rnd (ic a + ic b) - rnd (2 * resnik)) + 1)`:
`2 * resnik ≤ ic a + ic b` survives the two roundings by monotonicity, so the rounded difference is
≥ 0, and `rnd (x + 1) ≥ rnd 1 = 1` -/
theorem jcDenom_ge_one (ic : Nat → F) (a b : Term) (hn : ∀ i, 0 ≤ val (ic i))
    (hma : Mono (fun i => val (ic i)) a) (hmb : Mono (fun i => val (ic i)) b)
    (h1 : val (ic a.id) ≠ 0) (h2 : val (ic b.id) ≠ 0) : 1 ≤ val (jcDenom ic a b) := by
  have r1 := resnik_le_left ic a b hma (lt_of_le_of_ne (hn _) (Ne.symm h1))
  have r2 := resnik_le_right ic a b hmb (lt_of_le_of_ne (hn _) (Ne.symm h2))
  refine one_le_val_add ?_
  rw [val_one]
  refine le_add_of_nonneg_left (val_sub_nonneg ?_)
  rw [val_mul, val_add, val_two]
  exact (R F).mono ((two_mul _).le.trans (add_le_add r1 r2))

theorem graphIc_defined_nonneg (ic : Nat → F) (a b : Term) (hn : ∀ i, 0 ≤ val (ic i)) :
    ∃ v, graphIc ic a b = some v ∧ 0 ≤ val v := by
  unfold graphIc
  split
  · exact ⟨_, rfl, val_ofNat_nonneg 1⟩
  · obtain ⟨q, hq, h0⟩ := guarded_div? (sumIc ic (a.allCommonAncestorIds b))
      (sumIc_nonneg ic hn (a.unionAncestorIds b))
    exact ⟨q, hq, h0 (sumIc_nonneg ic hn _)⟩

theorem lin_defined_nonneg (ic : Nat → F) (a b : Term) (hn : ∀ i, 0 ≤ val (ic i)) :
    ∃ v, lin ic a b = some v ∧ 0 ≤ val v := by
  obtain ⟨q, hq, h0⟩ := guarded_div? (Num.mul (Num.ofNat 2) (resnik ic a b))
    (val_add_nonneg (hn a.id) (hn b.id))
  exact ⟨q, hq, h0 (val_mul_nonneg (val_ofNat_nonneg 2) (resnik_nonneg ic a b))⟩

theorem jc_defined_range (ic : Nat → F) (a b : Term) (hn : ∀ i, 0 ≤ val (ic i))
    (hma : Mono (fun i => val (ic i)) a) (hmb : Mono (fun i => val (ic i)) b) :
    ∃ v, jc ic a b = some v ∧ 0 ≤ val v ∧ val v ≤ 1 := by
  unfold jc
  split
  · exact ⟨_, rfl, val_ofNat_nonneg 1, val_one.le⟩
  · rw [isZero_eq, isZero_eq]
    split
    · exact ⟨_, rfl, val_zero.ge, val_zero.le.trans zero_le_one⟩
    · rename_i hz
      simp only [Bool.or_eq_true, decide_eq_true_eq, not_or] at hz
      exact one_div? (jcDenom_ge_one ic a b hn hma hmb hz.1 hz.2)

theorem relevance_defined_nonneg (ic : Nat → F) (a b : Term) (hn : ∀ i, 0 ≤ val (ic i)) :
    ∃ v, relevance ic a b = some v ∧ 0 ≤ val v := by
  obtain ⟨l, hl, hl0⟩ := lin_defined_nonneg ic a b hn
  exact ⟨_, by rw [relevance, hl]; rfl, val_mul_nonneg hl0 <| val_sub_nonneg <|
    (val_exp_le_one (val_neg_nonpos (resnik_nonneg ic a b))).trans val_one.ge⟩

theorem infoCoef_defined_nonneg (ic : Nat → F) (a b : Term) (hn : ∀ i, 0 ≤ val (ic i)) :
    ∃ v, infoCoef ic a b = some v ∧ 0 ≤ val v := by
  obtain ⟨l, hl, hl0⟩ := lin_defined_nonneg ic a b hn
  obtain ⟨q, hq, _, h1⟩ := one_div? (d := Num.add (Num.ofNat 1) (resnik ic a b))
    (one_le_val_add (by rw [val_one]; exact le_add_of_nonneg_right (resnik_nonneg ic a b)))
  exact ⟨_, by rw [infoCoef, hl, Option.bind_some, hq]; rfl,
    val_mul_nonneg hl0 (val_sub_nonneg (h1.trans val_one.ge))⟩

theorem distanceSim_defined_range (d : Option Nat) :
    ∃ v : F, distanceSim d = some v ∧ 0 ≤ val v ∧ val v ≤ 1 := by
  cases d with
  | none => exact ⟨_, rfl, val_zero.ge, val_zero.le.trans zero_le_one⟩
  | some n =>
    exact one_div? (one_le_val_add (by rw [val_one]; exact le_add_of_nonneg_left (val_ofNat_nonneg n)))

theorem distanceSim_self : (distanceSim (some 0) : Option F) = some (Num.ofNat 1) := by
  have hd : val (Num.add (Num.ofNat 0) (Num.ofNat 1) : F) = 1 := by
    rw [val_add, val_zero, val_one, zero_add, (R F).rnd_one]
  obtain ⟨q, hq, hv⟩ := div?_eq_some (Num.ofNat 1) (hd.trans_ne one_ne_zero)
  rw [hd, val_one, div_one, (R F).rnd_one] at hv
  rw [distanceSim, hq, val_inj (hv.trans val_one.symm)]

theorem score_self (k : Kind) (ic : Nat → F) (a : Term) :
    score .graphIc k ic none a a = some (Num.ofNat 1) ∧ score .jc k ic none a a = some (Num.ofNat 1) ∧
    score .distance k ic (some 0) a a = some (Num.ofNat 1) ∧
    score .mutation k ic none a a = some (Num.ofNat 1) :=
  ⟨graphIc_self ic a, jc_self ic a, distanceSim_self, mutation_self k a⟩

/-- `|A ∩ B| / |A ∪ B|` with both counts converted (rounded) first: for a non-empty union the
converted count is ≥ 1, whatever its size -/
theorem mutationDisease_defined_nonneg (x y : List Nat) :
    ∃ v : F, mutationDisease x y = some v ∧ 0 ≤ val v := by
  unfold mutationDisease
  split
  · exact ⟨_, rfl, val_zero.ge⟩
  · rename_i h
    have hl : 0 < (bitor x y).length := List.length_pos_iff.2 (by simpa using h)
    obtain ⟨q, hq, h0, _⟩ := div?_pos (Num.ofNat (bitand x y).length : F)
      (zero_lt_one.trans_le (one_le_val_ofNat hl))
    exact ⟨q, hq, h0 (val_ofNat_nonneg _)⟩

theorem mutation_defined_nonneg (k : Kind) (a b : Term) :
    ∃ v : F, mutation k a b = some v ∧ 0 ≤ val v := by
  rw [mutation_eq]
  split
  · exact ⟨_, rfl, val_ofNat_nonneg 1⟩
  · exact mutationDisease_defined_nonneg _ _

theorem score_defined_nonneg (alg : Alg) (k : Kind) (ic : Nat → F) (d : Option Nat) (a b : Term)
    (hn : ∀ i, 0 ≤ val (ic i)) (hma : Mono (fun i => val (ic i)) a)
    (hmb : Mono (fun i => val (ic i)) b) :
    ∃ v, score alg k ic d a b = some v ∧ 0 ≤ val v := by
  cases alg
  case graphIc => exact graphIc_defined_nonneg ic a b hn
  case resnik => exact ⟨_, rfl, resnik_nonneg ic a b⟩
  case lin => exact lin_defined_nonneg ic a b hn
  case jc => exact (jc_defined_range ic a b hn hma hmb).imp fun _ h => ⟨h.1, h.2.1⟩
  case relevance => exact relevance_defined_nonneg ic a b hn
  case infoCoef => exact infoCoef_defined_nonneg ic a b hn
  case distance => exact (distanceSim_defined_range d).imp fun _ h => ⟨h.1, h.2.1⟩
  case mutation => exact mutation_defined_nonneg k a b

end rnum

theorem sumIc_eq (ic : Nat → ℝ) (l : List Nat) : sumIc ic l = (l.map ic).sum := by
  rw [sumIc, sumGo_eq_foldl, NumReal.foldl_add_eq, NumReal.ofNat_eq, Nat.cast_zero, zero_add]

theorem jcDenom_eq (ic : Nat → ℝ) (a b : Term) :
    jcDenom ic a b = ic a.id + ic b.id - 2 * resnik ic a b + 1 := by
  simp only [jcDenom, NumReal.add_eq, NumReal.sub_eq, NumReal.mul_eq, NumReal.ofNat_eq,
    Nat.cast_ofNat, Nat.cast_one]

end Sim
end Hpo
