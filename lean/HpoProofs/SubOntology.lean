import HpoModel.SubOntology
import HpoProofs.Path
/-! The first stage of `sub_ontology` (the leaves and their `path_to_ancestor` chains are collected) and the
vocabulary in which C14 speaks of a successful call: `SubFacts` for the terms, `keepRec` for the record
made from a source record.  The builder stage is in `SubOntologyRun.lean`. -/
namespace Hpo
open Onto

/-- the chain `sub_ontology` keeps for a leaf: `path_to_ancestor(leaf, root)` -/
def Onto.chosenPath (o : Onto) (root : Nat) (l : Term) : List Nat :=
  match pathToAnc o.fuel o l root with
  | .ok (some p) => p
  | _ => []

theorem ChainPath.split {par : Nat → List Nat} {p : List Nat} {a x : Nat} : ∀ {t : Nat},
    ChainPath par t p a → x ∈ p → ∃ n m, Chain par t x n ∧ Chain par x a m ∧ n + m = p.length := by
  induction p with
  | nil => intro _ _ hx; cases hx
  | cons y ys ih =>
    intro t h hx
    rcases List.mem_cons.1 hx with rfl | hx
    · exact ⟨1, ys.length, Chain.step h.1 (Chain.refl _), h.2.chain, Nat.add_comm _ _⟩
    · obtain ⟨n, m, h1, h2, he⟩ := ih h.2 hx
      exact ⟨n + 1, m, Chain.step h.1 h1, h2, by rw [List.length_cons, ← he, Nat.add_right_comm]⟩

theorem ChainPath.end_mem {par : Nat → List Nat} {p : List Nat} {a : Nat} : ∀ {t : Nat},
    ChainPath par t p a → a = t ∨ a ∈ p := by
  induction p with
  | nil => intro t h; exact Or.inl h.symm
  | cons x xs ih =>
    intro t h
    exact Or.inr ((ih h.2).elim (fun e => e ▸ List.mem_cons_self) (List.mem_cons_of_mem _))

theorem ChainPath.mem_resolves {o : Onto} {rank : Nat → Nat} (wf : PathWF o rank) {p : List Nat} {t a x : Nat}
    (h : ChainPath o.par t p a) (hx : x ∈ p) (ht : ∃ tt, o.get t = some tt) : ∃ tx, o.get x = some tx := by
  obtain ⟨n, _, h1, _, _⟩ := h.split hx
  exact wf.chain_resolves h1 ht

theorem collectLeaves_cons_some {o : Onto} {root : Nat} {l : Term} {p : List Nat}
    (h : pathToAnc o.fuel o l root = .ok (some p)) (ls : List Term) (acc : List Nat) :
    collectLeaves o root (l :: ls) acc =
      collectLeaves o root ls (Group.insertAll (Group.addId acc l.id) p) := by
  simp only [collectLeaves, h]

theorem collectLeaves_cons_none {o : Onto} {root : Nat} {l : Term}
    (h : pathToAnc o.fuel o l root = .ok none) (ls : List Term) (acc : List Nat) :
    collectLeaves o root (l :: ls) acc = .err .notImplemented := by
  simp only [collectLeaves, h]

theorem collectLeaves_spec {o : Onto} {rank : Nat → Nat} (wf : PathWF o rank) (root : Nat) (leaves : List Term)
    (hres : ∀ l ∈ leaves, o.get l.id = some l) : ∀ (acc : List Nat),
    ((∃ l ∈ leaves, ¬ Reach o.par l.id root) ∧ collectLeaves o root leaves acc = .err .notImplemented) ∨
    ((∀ l ∈ leaves, Reach o.par l.id root) ∧ ∃ ids, collectLeaves o root leaves acc = .ok ids ∧
      (Group.Sorted acc → Group.Sorted ids) ∧
      ∀ x, x ∈ ids ↔ x ∈ acc ∨ ∃ l ∈ leaves, x = l.id ∨ x ∈ o.chosenPath root l) := by
  induction leaves with
  | nil => exact fun acc => Or.inr ⟨fun _ h => absurd h List.not_mem_nil, acc, rfl, id, fun x =>
      ⟨Or.inl, fun h => h.elim id (by rintro ⟨_, h, _⟩; cases h)⟩⟩
  | cons l ls ih =>
    intro acc
    have hl := hres l List.mem_cons_self
    obtain ⟨r, hr, hs⟩ := pathToAnc_spec wf root o.fuel l.id l hl (wf.rank_fuel _ _ hl)
    cases r with
    | none =>
      refine Or.inl ⟨⟨l, List.mem_cons_self, fun ⟨n, hn⟩ => ?_⟩, collectLeaves_cons_none hr ls acc⟩
      obtain ⟨p, hp, _⟩ := Chain.iff_path.1 hn
      exact hs p hp
    | some p =>
      have hch : o.chosenPath root l = p := by simp only [Onto.chosenPath, hr]
      rw [collectLeaves_cons_some hr]
      rcases ih (fun q hq => hres q (List.mem_cons_of_mem _ hq)) (Group.insertAll (Group.addId acc l.id) p) with
        ⟨⟨q, hq, hnq⟩, herr⟩ | ⟨hall, ids, hids, hsort, hmem⟩
      · exact Or.inl ⟨⟨q, List.mem_cons_of_mem _ hq, hnq⟩, herr⟩
      · refine Or.inr ⟨List.forall_mem_cons.2 ⟨⟨p.length, hs.1.chain⟩, hall⟩, ids, hids,
          fun hacc => hsort (Group.sorted_insertAll _ _ (Group.sorted_addId _ _ hacc)), fun x => ?_⟩
        rw [hmem x, Group.mem_insertAll, Group.mem_addId]
        simp only [List.mem_cons, exists_eq_or_imp, hch, or_assoc]
        exact or_left_comm

theorem chosenPath_spec {o : Onto} {rank : Nat → Nat} (wf : PathWF o rank) {root : Nat} {l : Term}
    (hl : o.get l.id = some l) (hr : Reach o.par l.id root) :
    ChainPath o.par l.id (o.chosenPath root l) root ∧
    Shortest o.par l.id root (o.chosenPath root l).length := by
  obtain ⟨r, hr', hs⟩ := pathToAnc_spec wf root o.fuel l.id l hl (wf.rank_fuel _ _ hl)
  obtain ⟨n, hn⟩ := hr
  obtain ⟨p, rfl, hc, hmin⟩ := hs.of_exists ((Chain.iff_path.1 hn).imp fun _ h => h.1)
  have : o.chosenPath root l = p := by simp [Onto.chosenPath, hr']
  rw [this]; exact ⟨hc, IsMin.shortest ⟨hc, hmin⟩⟩

theorem collectLeaves_top {o : Onto} {rank : Nat → Nat} (wf : PathWF o rank) (root : Nat) {leaves : List Term}
    (hl : ∀ l ∈ leaves, o.get l.id = some l) :
    ((∃ l ∈ leaves, ¬ Reach o.par l.id root) ∧ collectLeaves o root leaves [] = .err .notImplemented) ∨
    ((∀ l ∈ leaves, Reach o.par l.id root) ∧ ∃ ids, collectLeaves o root leaves [] = .ok ids ∧
      Group.Sorted ids ∧ (∀ x, x ∈ ids ↔ ∃ l ∈ leaves, x = l.id ∨ x ∈ o.chosenPath root l) ∧
      ∀ x ∈ ids, ∃ t, o.get x = some t) := by
  refine (collectLeaves_spec wf root leaves hl []).imp_right ?_
  rintro ⟨h, ids, hc, hs, hm⟩
  have hmem : ∀ x, x ∈ ids ↔ ∃ l ∈ leaves, x = l.id ∨ x ∈ o.chosenPath root l := by
    intro x; rw [hm x]; simp
  refine ⟨h, ids, hc, hs Group.sorted_nil, hmem, fun x hx => ?_⟩
  obtain ⟨l, hlm, rfl | hp⟩ := (hmem x).1 hx
  · exact ⟨l, hl l hlm⟩
  · exact (chosenPath_spec wf (hl l hlm) (h l hlm)).1.mem_resolves wf hp ⟨l, hl l hlm⟩

theorem getT_map_of_id {g : Nat → Term} (hg : ∀ i, (g i).id = i) (x : Nat) :
    ∀ ids : List Nat, getT (ids.map g) x = if x ∈ ids then some (g x) else none := by
  intro ids
  induction ids with
  | nil => rfl
  | cons i is ih =>
    simp only [List.map_cons, getT, hg, ih, List.mem_cons]
    by_cases h : i = x
    · subst h; simp
    · have : ¬ x = i := fun e => h e.symm
      simp [h, this]

/-- the fields `sub_ontology` copies (`copyTerm`) agree -/
def Term.Same (t t' : Term) : Prop :=
  t'.id = t.id ∧ t'.name = t.name ∧ t'.obsolete = t.obsolete ∧ t'.replacement = t.replacement

theorem srcTerm_of_get {o : Onto} {i : Nat} {t : Term} (h : o.get i = some t) : o.srcTerm i = t := by
  rw [srcTerm, (get_eq_some.1 h).2]; rfl

/-- everything the theorems of C14 need about a successful call, in one place -/
structure SubFacts (o : Onto) (root : Nat) (leaves : List Term) (o' : Onto) (ids : List Nat) : Prop where
  below : ∀ l ∈ leaves, Reach o.par l.id root
  sorted : Group.Sorted ids
  mem : ∀ x, x ∈ ids ↔ ∃ l ∈ leaves, x = l.id ∨ x ∈ o.chosenPath root l
  resolves : ∀ x ∈ ids, ∃ t, o.get x = some t
  absent : ∀ x, x ∉ ids → o'.get x = none
  present : ∀ x, x ∈ ids → ∃ t t', o.get x = some t ∧ o'.get x = some t' ∧ t.Same t' ∧
      (∀ y, y ∈ t'.parents ↔ y ∈ t.parents ∧ y ∈ ids) ∧
      (∀ y, y ∈ t'.children ↔ y ∈ ids ∧ x ∈ o.par y)
  of : subOntologyOf o isPhenotype ids = .ok o'

theorem SubFacts.mem_iff {o o' : Onto} {root : Nat} {leaves : List Term} {ids : List Nat}
    (f : SubFacts o root leaves o' ids) (x : Nat) : x ∈ ids ↔ (o'.get x).isSome := by
  constructor
  · intro hx
    obtain ⟨_, t', _, ht', _⟩ := f.present x hx
    rw [ht']; rfl
  · intro hx
    refine Decidable.byContradiction fun hn => ?_
    rw [f.absent x hn] at hx
    cases hx

theorem SubFacts.par_iff {o o' : Onto} {root : Nat} {leaves : List Term} {ids : List Nat}
    (f : SubFacts o root leaves o' ids) (x y : Nat) : y ∈ o'.par x ↔ x ∈ ids ∧ y ∈ ids ∧ y ∈ o.par x := by
  by_cases hx : x ∈ ids
  · obtain ⟨t, t', ht, ht', _, hp, _⟩ := f.present x hx
    rw [Onto.par_eq ht', Onto.par_eq ht, hp y]
    constructor
    · rintro ⟨a, b⟩; exact ⟨hx, b, a⟩
    · rintro ⟨_, b, a⟩; exact ⟨a, b⟩
  · have : o'.par x = [] := by simp [Onto.par, f.absent x hx]
    rw [this]
    constructor
    · intro h; cases h
    · rintro ⟨h, _⟩; exact absurd h hx

theorem SubFacts.chain_sub {o o' : Onto} {root : Nat} {leaves : List Term} {ids : List Nat}
    (f : SubFacts o root leaves o' ids) {t a n : Nat} (h : Chain o'.par t a n) : Chain o.par t a n := by
  induction h with
  | refl t => exact Chain.refl _
  | step hp _ ih => exact Chain.step ((f.par_iff _ _).1 hp).2.2 ih

theorem SubFacts.chainPath {o o' : Onto} {root : Nat} {leaves : List Term} {ids : List Nat}
    (f : SubFacts o root leaves o' ids) {p : List Nat} {a : Nat} : ∀ {t : Nat},
    ChainPath o.par t p a → t ∈ ids → (∀ z ∈ p, z ∈ ids) → ChainPath o'.par t p a := by
  induction p with
  | nil => intro _ h _ _; exact h
  | cons x xs ih =>
    intro t h ht hp
    have hx := hp x List.mem_cons_self
    exact ⟨(f.par_iff _ _).2 ⟨ht, hx, h.1⟩, ih h.2 hx fun z hz => hp z (List.mem_cons_of_mem _ hz)⟩

theorem isPhenotype_iff (o : Onto) (t : Term) : isPhenotype o t = true ↔ o.isModifier t = false := by
  rw [← Bool.not_eq_true, ← Bool.not_eq_false (b := isPhenotype o t)]
  apply not_congr
  simp only [isPhenotype, isModifier_iff, Group.bitand_isEmpty_eq_false, Group.mem_addId]
  exact exists_congr fun _ => and_comm

theorem phenotypeIds_eq_filter (o : Onto) (phen : Onto → Term → Bool) (ids : List Nat) :
    phenotypeIds o phen ids = ids.filter fun i => phen o (o.srcTerm i) := by
  induction ids with
  | nil => rfl
  | cons i is ih => simp only [phenotypeIds, List.filter_cons, ih]

theorem mem_phenotypeIds (o : Onto) (phen : Onto → Term → Bool) (x : Nat) (ids : List Nat) :
    x ∈ phenotypeIds o phen ids ↔ x ∈ ids ∧ phen o (o.srcTerm x) = true := by
  rw [phenotypeIds_eq_filter, List.mem_filter]

/-- the record `sub_ontology` creates for a source record (if any) -/
def keepRec (ids ph : List Nat) (r : Rec) : Option Rec :=
  if (Group.bitand r.hpos ph).isEmpty then none
  else match Group.bitand r.hpos ids with
    | [] => none
    | t :: ts => some { id := r.id, name := r.name, hpos := Group.insertAll [] (t :: ts) }

theorem keepRec_of_isEmpty {ids ph : List Nat} {r : Rec} (h : (Group.bitand r.hpos ph).isEmpty = true) :
    keepRec ids ph r = none := by
  simp only [keepRec, h, if_true]

theorem keepRec_of_nil {ids ph : List Nat} {r : Rec} (h : Group.bitand r.hpos ids = []) :
    keepRec ids ph r = none := by
  simp only [keepRec, h, ite_self]

theorem keepRec_of_cons {ids ph : List Nat} {r : Rec} {t : Nat} {ts : List Nat}
    (hp : ¬ (Group.bitand r.hpos ph).isEmpty = true) (h : Group.bitand r.hpos ids = t :: ts) :
    keepRec ids ph r = some { id := r.id, name := r.name, hpos := Group.insertAll [] (t :: ts) } := by
  rw [keepRec, if_neg hp, h]

theorem keepRec_some {ids ph : List Nat} {r r' : Rec} (h : keepRec ids ph r = some r') :
    r'.id = r.id ∧ r'.name = r.name ∧ r'.hpos = Group.insertAll [] (Group.bitand r.hpos ids) ∧
    (Group.bitand r.hpos ph).isEmpty = false := by
  unfold keepRec at h
  split at h
  · cases h
  · rename_i hemp
    split at h
    · cases h
    · rename_i t ts hts
      cases h
      exact ⟨rfl, rfl, by rw [hts], by simpa using hemp⟩

theorem keepRec_id {ids ph : List Nat} {r r' : Rec} (h : keepRec ids ph r = some r') : r'.id = r.id :=
  (keepRec_some h).1

theorem keepRec_isSome {ids ph : List Nat} (hsub : ∀ x ∈ ph, x ∈ ids) {r : Rec}
    (h : (Group.bitand r.hpos ph).isEmpty = false) : ∃ r', keepRec ids ph r = some r' := by
  obtain ⟨d, h1, h2⟩ := (Group.bitand_isEmpty_eq_false _ _).1 h
  have hd : d ∈ Group.bitand r.hpos ids := (Group.mem_bitand _ _ _).2 ⟨h1, hsub d h2⟩
  cases hts : Group.bitand r.hpos ids with
  | nil => rw [hts] at hd; cases hd
  | cons t ts => exact ⟨_, keepRec_of_cons (by rw [h]; exact Bool.false_ne_true) hts⟩

/-! ### a small ontology with a modifier root (non-vacuity and the pre-fix counterexample)

`1` (root) has the children `5` (a modifier root) and `118`; `200` is a child of `118`.
Gene `7` is annotated only to the modifier root `5`, gene `8` to `5` and to the phenotype term `200`. -/

def modTerms : List Term :=
  [ { id := 1, name := ['A'], children := [5, 118], genes := [7, 8] },
    { id := 5, name := ['M'], parents := [1], allParents := [1], genes := [7, 8] },
    { id := 118, name := ['P'], parents := [1], allParents := [1], children := [200], genes := [8] },
    { id := 200, name := ['x'], parents := [118], allParents := [1, 118], genes := [8], obsolete := true,
      replacement := some 118 } ]

def modOnto : Onto :=
  { terms := modTerms, modifier := [5], categories := [5],
    genes := [{ id := 7, name := ['G'], hpos := [5] }, { id := 8, name := ['H'], hpos := [5, 200] }] }

def modRank (i : Nat) : Nat := if i = 1 then 0 else if i = 200 then 2 else 1

theorem modOnto_wf : PathWF modOnto modRank := pathWF_of_check (by decide)

end Hpo

