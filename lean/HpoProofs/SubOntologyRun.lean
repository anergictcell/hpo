import HpoProofs.SubOntology
import HpoProofs.BuilderRun
import HpoProofs.Ic
import HpoProps.C02
import HpoProofs.Built
/-!
`sub_ontology` after the collection stage IS a builder run (`subOntologyOf_run`).

`copyTerms`, `linkInduced` and `copyRecs` are the loader's `addTermsFold`, `addParentRecs` and the
call sequence `annotateSeq` on records made from the retained ids (`subTerms`, `subParents`,
`subOps`); what holds of the loaders' builder program (`HpoProofs/BuilderRun.lean`: `TermRun`,
`TermRun.annotateSeq_ok`, `calcIc_ok_of_fit`) then holds of `sub_ontology`: for ids that are terms of a
well-formed source the run never fails, and the result satisfies the conclusions of C01–C03 (`RunFacts`), so it
is a well-formed source again (`Built.pathWF`, by `pathWF_of_lookups` and `transGen_iff_chain`). Its records
are read off the call history (`AnnState.runA_recs`): per kind, `keepRec` of every source record, in the order
of the source.
-/
namespace Hpo
open Onto Relation C01 C02

/-- the term records handed to `add_term` -/
def subTerms (o : Onto) (ids : List Nat) : List Term := ids.map fun i => copyTerm (o.srcTerm i)

/-- the parent records: every retained term with its retained parents -/
def subParents (o : Onto) (ids is : List Nat) : List (Nat × List Nat) :=
  is.map fun i => (i, (o.srcTerm i).parents.filter (Group.contains ids))

/-- the `annotate_*` calls for one source record -/
def annotateOps (k : Kind) (r : Rec) (ts : List Nat) : List AOp := ts.map (AOp.annotate k r.id r.name)

/-- … for all records of a kind -/
def recOps (k : Kind) (ids ph : List Nat) : List Rec → List AOp
  | [] => []
  | r :: rs =>
    if (Group.bitand r.hpos ph).isEmpty then recOps k ids ph rs
    else annotateOps k r (Group.bitand r.hpos ids) ++ recOps k ids ph rs

/-- the whole annotation history of `sub_ontology` -/
def subOps (o : Onto) (ids ph : List Nat) : List AOp :=
  recOps .gene ids ph (o.recs .gene) ++ (recOps .omim ids ph (o.recs .omim) ++ recOps .orpha ids ph (o.recs .orpha))

theorem copyTerms_eq (o : Onto) (ids : List Nat) : ∀ b : Onto,
    copyTerms o ids b = addTermsFold (subTerms o ids) b := by
  induction ids with
  | nil => intro _; rfl
  | cons i is ih => intro b; exact congrArg _ (funext ih)

theorem linkParentsOf_eq (ids : List Nat) (c : Nat) (ps : List Nat) : ∀ b : Onto,
    linkParentsOf ids c ps b = addParentsOf c (ps.filter (Group.contains ids)) b := by
  induction ps with
  | nil => intro _; rfl
  | cons p ps ih =>
    intro b
    simp only [linkParentsOf, List.filter_cons]
    split
    · exact congrArg _ (funext ih)
    · exact ih b

theorem linkInduced_eq (o : Onto) (ids : List Nat) (is : List Nat) : ∀ b : Onto,
    linkInduced o ids is b = addParentRecs (subParents o ids is) b := by
  induction is with
  | nil => intro _; rfl
  | cons i is ih =>
    intro b
    simp only [linkInduced, subParents, List.map_cons, addParentRecs, linkParentsOf_eq]
    exact congrArg _ (funext ih)

theorem annotateAll_eq (k : Kind) (r : Rec) (ts : List Nat) : ∀ b : Onto,
    annotateAll k r ts b = Text.annotateSeq (annotateOps k r ts) b := by
  induction ts with
  | nil => intro _; rfl
  | cons t ts ih => intro b; exact congrArg _ (funext ih)

theorem copyRecs_eq (k : Kind) (ids ph : List Nat) (rs : List Rec) : ∀ b : Onto,
    copyRecs k ids ph rs b = Text.annotateSeq (recOps k ids ph rs) b := by
  induction rs with
  | nil => intro _; rfl
  | cons r rs ih =>
    intro b
    simp only [copyRecs, recOps]
    split
    · exact ih b
    · rw [Text.annotateSeq_append, annotateAll_eq]
      exact congrArg _ (funext ih)

theorem subOntologyOf_eq (o : Onto) (phen : Onto → Term → Bool) (ids : List Nat) :
    subOntologyOf o phen ids =
      match (addTermsFold (subTerms o ids) {}).bind (addParentRecs (subParents o ids ids)) with
      | none => .panic
      | some b2 => b2.connectAll.bind fun b3 =>
          (Text.annotateSeq (subOps o ids (phenotypeIds o phen ids)) b3).bind fun b6 =>
            b6.calcIc.bind fun b7 => .ok b7.buildMinimal := by
  simp only [subOntologyOf, copyTerms_eq, linkInduced_eq, copyRecs_eq, subOps, Text.annotateSeq_append,
    Res.bind_assoc]
  cases addTermsFold (subTerms o ids) {} <;> rfl

theorem mem_recOps {k : Kind} {ids ph : List Nat} {rs : List Rec} {op : AOp} (h : op ∈ recOps k ids ph rs) :
    ∃ r ∈ rs, ∃ t ∈ ids, op = .annotate k r.id r.name t := by
  induction rs with
  | nil => cases h
  | cons r rs ih =>
    have tail : op ∈ recOps k ids ph rs → ∃ q ∈ r :: rs, ∃ t ∈ ids, op = .annotate k q.id q.name t := fun h => by
      obtain ⟨q, hq, e⟩ := ih h
      exact ⟨q, List.mem_cons_of_mem _ hq, e⟩
    simp only [recOps] at h
    split at h
    · exact tail h
    · rcases List.mem_append.1 h with h | h
      · obtain ⟨t, ht, rfl⟩ := List.mem_map.1 h
        exact ⟨r, List.mem_cons_self, t, ((Group.mem_bitand _ _ _).1 ht).2, rfl⟩
      · exact tail h

theorem mem_subOps {o : Onto} {ids ph : List Nat} {op : AOp} (h : op ∈ subOps o ids ph) :
    ∃ k, ∃ r ∈ o.recs k, ∃ t ∈ ids, op = .annotate k r.id r.name t := by
  simp only [subOps, List.mem_append] at h
  rcases h with h | h | h
  · exact ⟨.gene, mem_recOps h⟩
  · exact ⟨.omim, mem_recOps h⟩
  · exact ⟨.orpha, mem_recOps h⟩

theorem mem_subParents {o : Onto} {ids is : List Nat} (hres : ∀ x ∈ is, ∃ t, o.get x = some t) {p c : Nat} :
    (p, c) ∈ Binary.edgesOf (subParents o ids is) ↔ c ∈ is ∧ p ∈ o.par c ∧ p ∈ ids := by
  have hpar : ∀ c ∈ is, o.par c = (o.srcTerm c).parents := fun c hc => by
    obtain ⟨t, ht⟩ := hres c hc
    rw [Onto.par_eq ht, srcTerm_of_get ht]
  simp only [Binary.mem_edgesOf, subParents, List.mem_map, Prod.mk.injEq]
  constructor
  · rintro ⟨_, ⟨i, hi, rfl, rfl⟩, hp⟩
    obtain ⟨h1, h2⟩ := List.mem_filter.1 hp
    exact ⟨hi, hpar i hi ▸ h1, (Group.contains_iff _ _).1 h2⟩
  · rintro ⟨hc, h1, h2⟩
    exact ⟨_, ⟨c, hc, rfl, rfl⟩, List.mem_filter.2 ⟨hpar c hc ▸ h1, (Group.contains_iff _ _).2 h2⟩⟩

theorem srcTerm_id {o : Onto} {ids : List Nat} (hres : ∀ x ∈ ids, ∃ t, o.get x = some t) :
    ∀ i ∈ ids, (o.srcTerm i).id = i := by
  intro i hi
  obtain ⟨t, ht⟩ := hres i hi
  rw [srcTerm_of_get ht]; exact Onto.get_id ht

theorem subOntologyOf_run {o : Onto} {rank : Nat → Nat} (wf : PathWF o rank) (phen : Onto → Term → Bool)
    {ids : List Nat} (hres : ∀ x ∈ ids, ∃ t, o.get x = some t) :
    ∃ a oc, Text.TermRun ((subTerms o ids).map Binary.termFactOf) (Binary.edgesOf (subParents o ids ids)) a oc ∧
      (∀ j, (getT oc.terms j).isSome ↔ j ∈ ids) ∧
      subOntologyOf o phen ids =
        (runA (subOps o ids (phenotypeIds o phen ids)) oc).calcIc.bind fun b7 => .ok b7.buildMinimal := by
  have hid := srcTerm_id hres
  have hfs : ∀ j, (∃ f ∈ (subTerms o ids).map Binary.termFactOf, f.id = j) ↔ j ∈ ids := fun j => by
    constructor
    · rintro ⟨_, hf, rfl⟩
      obtain ⟨_, ht, rfl⟩ := List.mem_map.1 hf
      obtain ⟨i, hi, rfl⟩ := List.mem_map.1 ht
      exact (congrArg (· ∈ ids) (hid i hi)).mpr hi
    · exact fun hj => ⟨_, List.mem_map_of_mem (List.mem_map_of_mem hj), hid j hj⟩
  obtain ⟨a, oc, R⟩ := Text.termRun_exists ((subTerms o ids).map Binary.termFactOf)
    (Binary.edgesOf (subParents o ids ids))
    (by
      intro f hf
      obtain ⟨t, ht⟩ := hres f.id ((hfs f.id).1 ⟨f, hf, rfl⟩)
      exact (get_eq_some.1 ht).1)
    ⟨rank, by
      rintro ⟨p, c⟩ he
      obtain ⟨hc, hp, -⟩ := (mem_subParents hres).1 he
      obtain ⟨t, ht⟩ := hres c hc
      rw [Onto.par_eq ht] at hp
      exact wf.rank_lt c t ht p hp⟩
  have hpres : ∀ j, (getT oc.terms j).isSome ↔ j ∈ ids := fun j => (R.present j).trans (hfs j)
  refine ⟨a, oc, R, hpres, ?_⟩
  -- the term level is the head of a loader, on a builder without release version
  have hTP : (addTermsFold (subTerms o ids) {}).bind (addParentRecs (subParents o ids ids)) = some a := by
    have hmem : ∀ i ∈ ids, ∃ t ∈ subTerms o ids, t.id = i := fun i hi =>
      ⟨_, List.mem_map_of_mem hi, hid i hi⟩
    have h := Text.loadTerms_eq_runB (subTerms o ids) (subParents o ids ids) (0, 0, 0)
      (fun t ht => by obtain ⟨i, _, rfl⟩ := List.mem_map.1 ht; rfl)
      (fun r hr => by
        obtain ⟨i, hi, rfl⟩ := List.mem_map.1 hr
        exact ⟨hmem i hi, fun p hp => hmem p ((Group.contains_iff _ _).1 (List.mem_filter.1 hp).2)⟩)
    refine h.trans ?_
    rw [R.run, R.connected.init]
    rfl
  have hseq := R.annotateSeq_ok (subOps o ids (phenotypeIds o phen ids)) (by
    intro op hop
    obtain ⟨k, r, _, t, ht, rfl⟩ := mem_subOps hop
    exact (hfs t).2 ht)
  rw [subOntologyOf_eq, hTP]
  simp only [R.connect, hseq, Res.bind]

theorem subOntologyOf_terms {o o' : Onto} {rank : Nat → Nat} (wf : PathWF o rank)
    {phen : Onto → Term → Bool} {ids : List Nat} (hres : ∀ x ∈ ids, ∃ t, o.get x = some t)
    (h : subOntologyOf o phen ids = .ok o') :
    (∀ x, x ∉ ids → o'.get x = none) ∧
    (∀ x, x ∈ ids → ∃ t t', o.get x = some t ∧ o'.get x = some t' ∧ t.Same t' ∧
      (∀ y, y ∈ t'.parents ↔ y ∈ t.parents ∧ y ∈ ids) ∧
      (∀ y, y ∈ t'.children ↔ y ∈ ids ∧ x ∈ o.par y)) := by
  -- `linkOf` (id, name, flags, parents, children) of a result term is that of the state `a` after the term-level
  -- calls (`run_linkOf`), which `TermRun.lookup` reads off the facts: `copyTerm (srcTerm i)` and `mem_subParents`
  obtain ⟨a, oc, R, hpres, heq⟩ := subOntologyOf_run wf phen hres
  rw [heq] at h
  obtain ⟨b7, h7, h8⟩ := Res.bind_eq_ok.1 h
  cases h8
  have hrun := fun j => run_linkOf R.connected h7 j
  have hget : ∀ x, b7.buildMinimal.get x = if x ≥ maxId then none else getT b7.terms x := fun _ => rfl
  refine ⟨fun x hx => ?_, fun x hx => ?_⟩
  · rw [hget]
    split
    · rfl
    · exact Option.not_isSome_iff_eq_none.1 (by rw [(hrun x).2, hpres]; exact hx)
  · obtain ⟨t, ht⟩ := hres x hx
    obtain ⟨t', ht'⟩ := Option.isSome_iff_exists.1 (show (getT b7.terms x).isSome by rw [(hrun x).2, hpres]; exact hx)
    have hl := (hrun x).1
    rw [ht'] at hl
    obtain ⟨u, hu, hlu⟩ := Option.map_eq_some_iff.1 hl.symm
    obtain ⟨hf, hp, hch⟩ := R.lookup x
    obtain ⟨f, hfm, hfx, hfu⟩ := hf u hu
    obtain ⟨s, hs, rfl⟩ := List.mem_map.1 hfm
    obtain ⟨i, hi, rfl⟩ := List.mem_map.1 hs
    have hix : i = x := (srcTerm_id hres i hi).symm.trans hfx
    subst hix
    rw [srcTerm_of_get ht] at hfu
    simp only [linkOf, Prod.mk.injEq] at hlu
    simp only [fieldsOf, Prod.mk.injEq] at hfu
    obtain ⟨eid, ename, eobs, erepl, epar, echi⟩ := hlu
    obtain ⟨fname, fobs, frepl, -⟩ := hfu
    refine ⟨t, t', ht, by rw [hget, if_neg (Nat.not_le.2 (get_eq_some.1 ht).1)]; exact ht', ?_, fun y => ?_, fun y => ?_⟩
    · exact ⟨eid ▸ (getT_id hu).trans (Onto.get_id ht).symm, ename ▸ fname, eobs ▸ fobs, erepl ▸ frepl⟩
    · rw [← epar, ← parentsOf_eq hu, hp, mem_subParents hres, Onto.par_eq ht, hpres, hpres]
      exact ⟨fun h => ⟨h.1.2.1, h.1.2.2⟩, fun h => ⟨⟨hx, h.1, h.2⟩, h.2, hx⟩⟩
    · rw [← echi, ← childrenOf_eq hu, hch, mem_subParents hres, hpres, hpres]
      exact ⟨fun h => ⟨h.1.1, h.1.2.1⟩, fun h => ⟨⟨h.1, h.2, hx⟩, h.1, hx⟩⟩

/-- `hcount` is what `calculate_information_content` needs: record counts go through `u16` -/
theorem subOntologyOf_total {o : Onto} {rank : Nat → Nat} (wf : PathWF o rank) (phen : Onto → Term → Bool)
    {ids : List Nat} (hres : ∀ x ∈ ids, ∃ t, o.get x = some t)
    (hcount : ∀ k, (o.recs k).length ≤ 65535) : ∃ o', subOntologyOf o phen ids = .ok o' := by
  obtain ⟨a, oc, R, -, heq⟩ := subOntologyOf_run wf phen hres
  obtain ⟨r, hr⟩ := Text.calcIc_ok_of_fit R.connected
    (subOps o ids (phenotypeIds o phen ids)) (by
      intro k l hnd hl
      refine Nat.le_trans ?_ (hcount k)
      have := List.Nodup.length_le_of_subset hnd (l₂ := (o.recs k).map (·.id)) (by
        intro i hi
        obtain ⟨op, hop, he⟩ := hl i hi
        obtain ⟨k', r, hr, t, -, rfl⟩ := mem_subOps hop
        cases he
        exact List.mem_map_of_mem hr)
      rwa [List.length_map] at this)
  exact ⟨r.buildMinimal, by rw [heq, hr]; rfl⟩

/-! ### the record maps of the run

What a history of calls on known terms does to the records of one kind is a fold over the calls
(`recStep`), and on the calls `sub_ontology` makes for a kind that fold appends `keepRec` of every
source record. -/

/-- what a successful `annotate_*(id, name, t)` does to the records of its kind: `add_gene(name, id)`
(a vacant entry is filled), then `record.add_term(t)` -/
def annR (rs : List Rec) (rid : Nat) (name : List Char) (t : Nat) : List Rec :=
  modR (addR rs { id := rid, name := name }) rid fun r => { r with hpos := (Group.insert r.hpos t).1 }

theorem annR_fresh {rs : List Rec} {rid : Nat} (h : getR rs rid = none) (name : List Char) (t : Nat) :
    annR rs rid name t = rs ++ [{ id := rid, name := name, hpos := [t] }] := by
  rw [annR, addR_of_none (r := { id := rid, name := name }) h]
  exact modR_snoc_of_none rs { id := rid, name := name } _ h

theorem annR_last {rs : List Rec} {r0 : Rec} {rid : Nat} (hid : r0.id = rid) (h : getR rs rid = none)
    (name : List Char) (t : Nat) :
    annR (rs ++ [r0]) rid name t = rs ++ [{ r0 with hpos := (Group.insert r0.hpos t).1 }] := by
  subst hid
  have hget : getR (rs ++ [r0]) r0.id = some r0 := by rw [getR_snoc, h, if_pos rfl]; rfl
  rw [annR, addR_of_some (r := { id := r0.id, name := name }) hget]
  exact modR_snoc_of_none _ _ _ h

/-- one call, seen from the records of kind `k` -/
def recStep (k : Kind) (rs : List Rec) : AOp → List Rec
  | .addRec k' n i => if k' = k then addR rs { id := i, name := n } else rs
  | .annotate k' rid n t => if k' = k then annR rs rid n t else rs

theorem AnnState.runA_recs {anc : Nat → List Nat} {ex : Nat → Prop} {rank : Nat → Nat} {o : Onto}
    (S : AnnState anc ex rank o) (k : Kind) (ops : List AOp) (hk : ∀ op ∈ ops, op.Known ex) :
    (runA ops o).recs k = ops.foldl (recStep k) (o.recs k) := by
  induction ops generalizing o with
  | nil => rfl
  | cons op ops ih =>
    have e : (applyA o op).recs k = recStep k (o.recs k) op := by
      cases op with
      | addRec k' n i =>
        simp only [applyA, Onto.addRec, recStep]
        split
        · subst ‹k' = k›; exact recs_setRecs _ _ _
        · exact recs_setRecs_ne _ _ _ _ (Ne.symm ‹_›)
      | annotate k' rid n t =>
        rw [recs_of_rest (S.applyA_present k' rid n (hk _ List.mem_cons_self)).2.rest]
        simp only [Onto.addTermToRec, Onto.addRec, recStep]
        split
        · subst ‹k' = k›; rw [recs_setRecs, recs_setRecs]; rfl
        · rw [recs_setRecs_ne _ _ _ _ (Ne.symm ‹_›), recs_setRecs_ne _ _ _ _ (Ne.symm ‹_›)]
    rw [List.foldl_cons, ← e]
    exact ih (S.step op) fun op' h => hk op' (List.mem_cons_of_mem _ h)

theorem foldl_recStep_ne {k : Kind} (ops : List AOp) (rs : List Rec) (h : ∀ op ∈ ops, op.recId.1 ≠ k) :
    ops.foldl (recStep k) rs = rs := by
  induction ops with
  | nil => rfl
  | cons op ops ih =>
    have : recStep k rs op = rs := by cases op <;> exact if_neg (h _ List.mem_cons_self)
    rw [List.foldl_cons, this]
    exact ih fun op' h' => h op' (List.mem_cons_of_mem _ h')

theorem foldl_annotateOps (k : Kind) (r : Rec) (ts : List Nat) {rs : List Rec} (hfresh : getR rs r.id = none) :
    ∀ r0 : Rec, r0.id = r.id →
    (annotateOps k r ts).foldl (recStep k) (rs ++ [r0]) = rs ++ [{ r0 with hpos := Group.insertAll r0.hpos ts }] := by
  induction ts with
  | nil => intro _ _; rfl
  | cons t ts ih =>
    intro r0 hid
    simp only [annotateOps, List.map_cons, List.foldl_cons, recStep, if_true]
    rw [annR_last hid hfresh]
    exact ih { r0 with hpos := (Group.insert r0.hpos t).1 } hid

theorem foldl_recOps (k : Kind) (ids ph : List Nat) (rs : List Rec) (hnd : (rs.map (·.id)).Nodup) :
    ∀ rs0 : List Rec, (∀ r ∈ rs, getR rs0 r.id = none) →
    (recOps k ids ph rs).foldl (recStep k) rs0 = rs0 ++ rs.filterMap (keepRec ids ph) := by
  induction rs with
  | nil => intro rs0 _; exact (List.append_nil rs0).symm
  | cons r rs ih =>
    intro rs0 hfresh
    simp only [List.map_cons, List.nodup_cons] at hnd
    have hf' : ∀ q ∈ rs, getR rs0 q.id = none := fun q hq => hfresh q (List.mem_cons_of_mem _ hq)
    simp only [recOps]
    split
    · rename_i hemp
      rw [ih hnd.2 rs0 hf', List.filterMap_cons_none (keepRec_of_isEmpty hemp)]
    · rename_i hemp
      rw [List.foldl_append]
      cases hts : Group.bitand r.hpos ids with
      | nil =>
        rw [List.filterMap_cons_none (keepRec_of_nil hts)]
        exact ih hnd.2 rs0 hf'
      | cons t ts =>
        -- the first call creates the record at the end, the others insert into it
        have e : (annotateOps k r (t :: ts)).foldl (recStep k) rs0 =
            rs0 ++ [{ id := r.id, name := r.name, hpos := Group.insertAll [] (t :: ts) }] := by
          simp only [annotateOps, List.map_cons, List.foldl_cons, recStep, if_true]
          rw [annR_fresh (hfresh r List.mem_cons_self)]
          exact foldl_annotateOps k r ts (hfresh r List.mem_cons_self) _ rfl
        rw [e, ih hnd.2, List.filterMap_cons_some (keepRec_of_cons hemp hts), List.append_assoc]
        · rfl
        · intro q hq
          rw [getR_snoc, hf' q hq, if_neg fun e => hnd.1 (List.mem_map.2 ⟨q, hq, e.symm⟩)]
          rfl

theorem subOntologyOf_recs {o o' : Onto} {rank : Nat → Nat} (wf : PathWF o rank)
    {phen : Onto → Term → Bool} {ids : List Nat} (hres : ∀ x ∈ ids, ∃ t, o.get x = some t)
    (h : subOntologyOf o phen ids = .ok o') (hrecs : ∀ k, ((o.recs k).map (·.id)).Nodup) (k : Kind) :
    o'.recs k = (o.recs k).filterMap (keepRec ids (phenotypeIds o phen ids)) := by
  obtain ⟨a, oc, R, hpres, heq⟩ := subOntologyOf_run wf phen hres
  rw [heq] at h
  obtain ⟨b7, h7, h8⟩ := Res.bind_eq_ok.1 h
  cases h8
  obtain ⟨rk, S⟩ := connected_annState R.connected
  have hknown : ∀ op ∈ subOps o ids (phenotypeIds o phen ids), op.Known (present oc) := fun op hop => by
    obtain ⟨_, _, _, t, ht, rfl⟩ := mem_subOps hop
    exact (hpres t).2 ht
  have ne : ∀ k' rs0, k' ≠ k →
      (recOps k' ids (phenotypeIds o phen ids) (o.recs k')).foldl (recStep k) rs0 = rs0 :=
    fun k' rs0 hk => foldl_recStep_ne _ _ fun op hop => by
      obtain ⟨_, _, _, _, rfl⟩ := mem_recOps hop
      exact hk
  have eq := foldl_recOps k ids (phenotypeIds o phen ids) (o.recs k) (hrecs k) [] fun _ _ => rfl
  show b7.recs k = _
  rw [recs_of_rest (calcIc_rest h7), S.runA_recs k _ hknown, R.connected.recs_nil, subOps,
    List.foldl_append, List.foldl_append]
  cases k
  · rw [eq, ne .omim _ (by decide), ne .orpha _ (by decide)]; rfl
  · rw [ne .gene _ (by decide), eq, ne .orpha _ (by decide)]; rfl
  · rw [ne .gene _ (by decide), ne .omim _ (by decide), eq]; rfl

theorem subOntology_facts {o : Onto} {rank : Nat → Nat} (wf : PathWF o rank) {root : Term} {leaves : List Term}
    (hl : ∀ l ∈ leaves, o.get l.id = some l) {o' : Onto}
    (h : o.subOntology root leaves = .ok o') : ∃ ids, SubFacts o root.id leaves o' ids := by
  simp only [subOntology, subOntologyWith] at h
  obtain ⟨ids, hc, hof⟩ := Res.bind_eq_ok.1 h
  rcases collectLeaves_top wf root.id hl with ⟨-, herr⟩ | ⟨below, ids', hc', sorted, mem, resolves⟩
  · rw [herr] at hc; cases hc
  · rw [hc'] at hc
    cases hc
    obtain ⟨habs, hpres⟩ := subOntologyOf_terms wf resolves hof
    exact ⟨ids, below, sorted, mem, resolves, habs, hpres, hof⟩

/-- what C01 (closure, sorted), C02 (inheritance, resolution) and C03 (counts, stored pairs) say
about a built ontology, in terms of its lookups: the clauses of `Built` (`Built.runFacts`) in the shape in
which `C14_again` and `C14_result_wf` state them, with `count_le` and `count_mono` derived from them -/
structure RunFacts (o' : Onto) : Prop where
  small : ∀ j, (getT o'.terms j).isSome → j < maxId
  nodup : (o'.terms.map (·.id)).Nodup
  closure : ∀ j, (getT o'.terms j).isSome → ∀ a,
    a ∈ allOf o'.terms j ↔ TransGen (fun c p => p ∈ parentsOf o'.terms c) j a
  sortedAll : ∀ j, Group.Sorted (allOf o'.terms j)
  closedP : ∀ j p, p ∈ parentsOf o'.terms j → (getT o'.terms p).isSome
  linked : ∀ k x r, r ∈ annOf k o'.terms x ↔
    ∃ d, d ∈ hposOf k o' r ∧ (d = x ∨ x ∈ allOf o'.terms d)
  sortedAnn : ∀ k j, Group.Sorted (annOf k o'.terms j)
  recTerms : ∀ k r d, d ∈ hposOf k o' r → (getT o'.terms d).isSome
  annRecs : ∀ k x r, r ∈ annOf k o'.terms x → (getR (o'.recs k) r).isSome
  recIds : ∀ k, ((o'.recs k).map (·.id)).Nodup
  count_le : ∀ k x, (annOf k o'.terms x).length ≤ (o'.recs k).length
  count_mono : ∀ k d a, a ∈ allOf o'.terms d →
    (annOf k o'.terms d).length ≤ (annOf k o'.terms a).length
  ic : ∀ k x t, getT o'.terms x = some t → t.ic k = icPair (o'.recs k).length (t.ann k).length
  acyclic : ∃ rank : Nat → Nat, (∀ c p, p ∈ parentsOf o'.terms c → rank p < rank c) ∧
    ∀ j, rank j < o'.terms.length + 2

theorem Built.runFacts {o : Onto} (h : Built o) : RunFacts o where
  small := h.smallT
  nodup := h.nodup
  closure := fun j _ a => h.closure j a
  sortedAll := h.sortedA
  closedP := h.closedP
  linked := h.linked
  sortedAnn := h.sortedAnn
  recTerms := h.recTerms
  annRecs := h.annResolves
  recIds := h.recNodup
  count_le := fun k x => length_le_of_resolves (h.sortedAnn k x).nodup (h.annResolves k x)
  count_mono := by
    intro k d a ha
    apply List.Nodup.length_le_of_subset (h.sortedAnn k d).nodup
    intro r hr
    obtain ⟨d', hd', hu⟩ := (h.linked k d r).1 hr
    refine (h.linked k a r).2 ⟨d', hd', Or.inr ?_⟩
    rcases hu with rfl | hu
    · exact ha
    · exact (h.closure d' a).2 (((h.closure d' d).1 hu).trans ((h.closure d a).1 ha))
  ic := fun k x t ht => h.ic t (getT_mem ht) k
  acyclic := ⟨fun j => (allOf o.terms j).length, h.rank_lt, h.rank_fuel⟩

theorem runFacts_of_run {b2 b3 : Onto} (C : Connected b2 b3) {aops : List AOp} {b7 : Onto}
    (h7 : (runA aops b3).calcIc = .ok b7) : RunFacts b7.buildMinimal :=
  ((built_of_run C h7).defaults [] []).runFacts

theorem run_count {b2 b3 : Onto} (C : Connected b2 b3) {aops : List AOp} {b7 : Onto}
    (h7 : (runA aops b3).calcIc = .ok b7) (o : Onto)
    (hops : ∀ op ∈ aops, ∃ k, ∃ r ∈ o.recs k, ∃ t, op = .annotate k r.id r.name t) (k : Kind) :
    (b7.buildMinimal.recs k).length ≤ (o.recs k).length := by
  obtain ⟨rk, S⟩ := connected_annState C
  have hnd := (runFacts_of_run C h7).recIds k
  have hrecs : b7.buildMinimal.recs k = (runA aops b3).recs k := recs_of_rest (calcIc_rest h7) k
  have := List.Nodup.length_le_of_subset hnd (l₂ := (o.recs k).map (·.id)) (by
    intro r hr
    rw [hrecs] at hr
    rcases (S.runA_recs_isSome aops k r).1 ((getR_isSome_iff _ r).2 hr) with
      h1 | ⟨op, hop, ht⟩
    · rw [C.recs_nil] at h1; cases h1
    · obtain ⟨k', q, hq, t, rfl⟩ := hops op hop
      obtain ⟨rfl, rfl, -⟩ := ht
      exact List.mem_map_of_mem hq)
  rwa [List.length_map, List.length_map] at this

theorem subOntology_run {o : Onto} {rank : Nat → Nat} (wf : PathWF o rank) {root : Term}
    {leaves : List Term} (hl : ∀ l ∈ leaves, o.get l.id = some l) {o' : Onto}
    (h : o.subOntology root leaves = .ok o') :
    ∃ ids tops aops b2 b3 b7, SubFacts o root.id leaves o' ids ∧ runB tops {} = some b2 ∧
      (∀ j, (getT b2.terms j).isSome ↔ j ∈ ids) ∧ C01.Acyclic b2 ∧ b2.connectAll = .ok b3 ∧
      (∀ op ∈ aops, ∃ k, ∃ r ∈ o.recs k, ∃ t ∈ ids, op = .annotate k r.id r.name t) ∧
      (runA aops b3).calcIc = .ok b7 ∧ o' = b7.buildMinimal := by
  obtain ⟨ids, f⟩ := subOntology_facts wf hl h
  obtain ⟨a, oc, R, hpres, heq⟩ := subOntologyOf_run wf isPhenotype f.resolves
  have hof := f.of
  rw [heq] at hof
  obtain ⟨b7, h7, h8⟩ := Res.bind_eq_ok.1 hof
  cases h8
  exact ⟨ids, _, _, a, oc, b7, f, R.run, fun j => by rw [← R.connected.upd.isSome]; exact hpres j, R.acyclic,
    R.connect, fun op hop => mem_subOps hop, h7, rfl⟩

/-! ### `PathWF` from the lookups (kept out of `Path.lean`, which imports no Mathlib, because of `TransGen`) -/

theorem transGen_iff_chain {par : Nat → List Nat} {a b : Nat} :
    TransGen (fun c p => p ∈ par c) a b ↔ ∃ n, Chain par a b (n + 1) := by
  constructor
  · intro h
    induction h with
    | single h => exact ⟨0, Chain.step h (Chain.refl _)⟩
    | tail _ h ih =>
      obtain ⟨n, hn⟩ := ih
      exact ⟨n + 1, Chain.trans hn (Chain.step h (Chain.refl _))⟩
  · rintro ⟨n, h⟩
    induction n generalizing a with
    | zero =>
      obtain ⟨p, hp, hc⟩ := Chain.succ_iff.1 h
      exact Chain.zero_iff.1 hc ▸ TransGen.single hp
    | succ n ih =>
      obtain ⟨p, hp, hc⟩ := Chain.succ_iff.1 h
      exact TransGen.head hp (ih hc)

theorem pathWF_of_lookups {o : Onto} (hs : ∀ j, (getT o.terms j).isSome → j < maxId)
    (hcp : ∀ j p, p ∈ parentsOf o.terms j → (getT o.terms p).isSome)
    (hcl : ∀ j, (getT o.terms j).isSome → ∀ a,
      a ∈ allOf o.terms j ↔ TransGen (fun c p => p ∈ parentsOf o.terms c) j a)
    {rank : Nat → Nat} (hr : ∀ c p, p ∈ parentsOf o.terms c → rank p < rank c)
    (hb : ∀ j, rank j < o.terms.length + 2) : PathWF o rank := by
  have hget : ∀ j, o.get j = getT o.terms j := fun j => get_eq_getT o j hs
  have hpar : o.par = parentsOf o.terms := funext (par_eq_parentsOf hs)
  refine ⟨?_, ?_, ?_, ?_⟩
  · intro i t hi p hp
    rw [hget] at hi
    obtain ⟨tp, htp⟩ := Option.isSome_iff_exists.1 (hcp i p (by rw [parentsOf_eq hi]; exact hp))
    exact ⟨tp, by rw [hget]; exact htp⟩
  · intro i t hi a
    rw [hget] at hi
    have hall : allOf o.terms i = t.allParents := allOf_eq hi
    rw [← hall, hcl i (by simp [hi]) a, hpar]
    exact transGen_iff_chain
  · intro i t hi p hp
    rw [hget] at hi
    exact hr i p (by rw [parentsOf_eq hi]; exact hp)
  · intro i t _
    exact hb i

theorem Built.pathWF {o : Onto} (B : Built o) : PathWF o (fun j => (allOf o.terms j).length) :=
  pathWF_of_lookups B.smallT B.closedP (fun j _ => B.closure j) B.rank_lt B.rank_fuel

/-! ### the pre-fix counterexample, end to end

`sub_ontology(root = 1, leaves = [5, 200])` on `modOnto` retains all four terms `1, 5, 118, 200`. -/

def modRoot : Term := (modOnto.get 1).getD placeholder
def modLeaf5 : Term := (modOnto.get 5).getD placeholder
def modLeaf200 : Term := (modOnto.get 200).getD placeholder
/-- result of the pinned (pre-fix) function -/
def modSubPrefix : Onto := (modOnto.subOntologyPrefix modRoot [modLeaf5, modLeaf200]).toOption.getD {}
/-- result of the function as it stands -/
def modSub : Onto := (modOnto.subOntology modRoot [modLeaf5, modLeaf200]).toOption.getD {}

end Hpo
