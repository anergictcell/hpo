import HpoModel.TermId
/-! Lemmas for `HpoModel/TermId.lean`: `digitsVal` reads the decimal rendering back, which characters a
rendering can contain, byte lengths and byte offsets of a character list, base-256 digits. Core Lean only. -/
namespace Hpo
namespace TermId

theorem digitChar_eq (n : Nat) : digitChar n = Char.ofNat (48 + n % 10) := by
  have h := Nat.mod_lt n (show 0 < 10 by decide)
  unfold digitChar
  generalize n % 10 = m at h
  revert m
  decide

theorem digitChar_ind {P : Char → Prop} (h : ∀ m < 10, P (Char.ofNat (48 + m))) (n : Nat) :
    P (digitChar n) := by
  rw [digitChar_eq]
  exact h _ (Nat.mod_lt n (by decide))

theorem digitVal_digitChar (n : Nat) : digitVal (digitChar n) = some (n % 10) := by
  rw [digitChar_eq]
  exact (by decide : ∀ m < 10, digitVal (Char.ofNat (48 + m)) = some m) _ (Nat.mod_lt n (by decide))

theorem digitChar_ne (k : Nat) (c : Char) (hc : digitVal c = none) : digitChar k ≠ c := by
  intro e
  have := digitVal_digitChar k
  rw [e, hc] at this
  exact absurd this (by simp)

theorem digitsVal_append (l r : List Char) (acc : Nat) :
    digitsVal (l ++ r) acc = (digitsVal l acc).bind (digitsVal r) := by
  induction l generalizing acc with
  | nil => simp [digitsVal]
  | cons c l ih =>
    simp only [List.cons_append, digitsVal]
    cases digitVal c with
    | none => simp
    | some d => simp [ih]

/-- the recursive call of `digitsRev` is within the fuel -/
theorem div10_lt {n f : Nat} (h : n < f + 1) (hn : ¬ n < 10) : n / 10 < f := by omega

theorem digitsVal_digitsRev (fuel n : Nat) (h : n < fuel) :
    digitsVal (digitsRev fuel n).reverse 0 = some n := by
  induction fuel generalizing n with
  | zero => omega
  | succ f ih =>
    unfold digitsRev
    split
    · rename_i hn
      simp [digitsVal, digitVal_digitChar, Nat.mod_eq_of_lt hn]
    · rename_i hn
      rw [List.reverse_cons, digitsVal_append, ih _ (div10_lt h hn)]
      simp [digitsVal, digitVal_digitChar, Nat.div_add_mod']

theorem digitsVal_decimal (n : Nat) : digitsVal (decimal n) 0 = some n :=
  digitsVal_digitsRev (n + 1) n (Nat.lt_succ_self n)

theorem digitsVal_zeros (k : Nat) (l : List Char) :
    digitsVal (List.replicate k '0' ++ l) 0 = digitsVal l 0 := by
  induction k with
  | zero => simp
  | succ k ih =>
    simp only [List.replicate_succ, List.cons_append, digitsVal]
    have : digitVal '0' = some 0 := by decide
    simp [this, ih]

theorem digitsRev_ne_nil (fuel n : Nat) (h : 0 < fuel) : digitsRev fuel n ≠ [] := by
  cases fuel with
  | zero => omega
  | succ f => unfold digitsRev; split <;> simp

theorem decimal_ne_nil (n : Nat) : decimal n ≠ [] := by
  unfold decimal
  simp [digitsRev_ne_nil (n + 1) n (Nat.succ_pos n)]

theorem digitsRev_digits (fuel n : Nat) : ∀ c ∈ digitsRev fuel n, ∃ k, c = digitChar k := by
  induction fuel generalizing n with
  | zero => simp [digitsRev]
  | succ f ih =>
    unfold digitsRev
    split
    · intro c hc; simp at hc; exact ⟨n, hc⟩
    · intro c hc
      rcases List.mem_cons.1 hc with rfl | hc
      · exact ⟨n, rfl⟩
      · exact ih _ c hc

theorem decimal_digits (n : Nat) : ∀ c ∈ decimal n, ∃ k, c = digitChar k := by
  intro c hc
  unfold decimal at hc
  exact digitsRev_digits _ _ c (List.mem_reverse.1 hc)

theorem not_mem_decimal (n : Nat) (c : Char) (hc : digitVal c = none) : c ∉ decimal n := by
  intro h
  obtain ⟨k, hk⟩ := decimal_digits n c h
  exact digitChar_ne k c hc hk.symm

theorem not_mem_render (n : Nat) (c : Char) (hc : digitVal c = none)
    (h1 : c ≠ 'H') (h2 : c ≠ 'P') (h3 : c ≠ ':') : c ∉ render n := by
  intro h
  simp only [render, List.cons_append, List.nil_append, List.mem_cons, List.mem_append,
    List.mem_replicate] at h
  rcases h with h | h | h | h | h
  · exact h1 h
  · exact h2 h
  · exact h3 h
  · rw [h.2] at hc; exact absurd hc (by decide)
  · exact not_mem_decimal n c hc h

theorem digitsRev_length (fuel n : Nat) (h : n < fuel) (k : Nat) (hk : n < 10 ^ (k + 1)) :
    (digitsRev fuel n).length ≤ k + 1 := by
  induction fuel generalizing n k with
  | zero => omega
  | succ f ih =>
    unfold digitsRev
    split
    · simp
    · rename_i hn
      cases k with
      | zero => exact absurd hk hn
      | succ k =>
        have hk' : n / 10 < 10 ^ (k + 1) := Nat.div_lt_of_lt_mul (Nat.pow_succ' ▸ hk)
        exact Nat.succ_le_succ (ih (n / 10) (div10_lt h hn) k hk')

theorem decimal_length_le (n k : Nat) (hk : n < 10 ^ (k + 1)) : (decimal n).length ≤ k + 1 := by
  unfold decimal
  rw [List.length_reverse]
  exact digitsRev_length _ _ (Nat.lt_succ_self n) k hk

theorem render_eq (n : Nat) :
    render n = ['H', 'P', ':'] ++ (List.replicate (7 - (decimal n).length) '0' ++ decimal n) :=
  List.append_assoc ..

theorem byteLen_nil : byteLen [] = 0 := rfl

theorem byteLen_cons (c : Char) (cs : List Char) : byteLen (c :: cs) = c.utf8Size + byteLen cs := by
  simp only [byteLen, List.map_cons, List.sum_cons]

theorem byteLen_append (l r : List Char) : byteLen (l ++ r) = byteLen l + byteLen r := by
  simp [byteLen, List.sum_append]

theorem length_le_byteLen (l : List Char) : l.length ≤ byteLen l := by
  induction l with
  | nil => exact Nat.le_refl 0
  | cons c l ih =>
    rw [byteLen_cons, List.length_cons, Nat.add_comm]
    exact Nat.add_le_add c.utf8Size_pos ih

theorem utf8Size_digitChar (k : Nat) : (digitChar k).utf8Size = 1 :=
  digitChar_ind (P := fun c => c.utf8Size = 1) (by decide) k

theorem byteLen_digits (ds : List Nat) : byteLen (ds.map digitChar) = ds.length := by
  induction ds with
  | nil => rfl
  | cons d ds ih => rw [List.map_cons, byteLen_cons, utf8Size_digitChar, ih, List.length_cons, Nat.add_comm]

theorem digitsVal_digits (ds : List Nat) (h : ∀ d ∈ ds, d < 10) (acc : Nat) :
    digitsVal (ds.map digitChar) acc = some (ds.foldl (fun a d => a * 10 + d) acc) := by
  induction ds generalizing acc with
  | nil => rfl
  | cons d ds ih =>
    rw [List.map_cons, digitsVal, digitVal_digitChar, Nat.mod_eq_of_lt (h d (by simp))]
    exact ih (fun x hx => h x (by simp [hx])) _

/-- one more digit in base `b` -/
theorem digit_step_lt {b q B d : Nat} (hq : q < B) (hd : d < b) : q * b + d < B * b :=
  calc q * b + d < q * b + b := Nat.add_lt_add_left hd _
    _ = (q + 1) * b := (Nat.succ_mul q b).symm
    _ ≤ B * b := Nat.mul_le_mul_right b hq

theorem foldl_digits_lt (ds : List Nat) (h : ∀ d ∈ ds, d < 10) (acc k : Nat) (hacc : acc < 10 ^ k) :
    ds.foldl (fun a d => a * 10 + d) acc < 10 ^ (k + ds.length) := by
  induction ds generalizing acc k with
  | nil => exact hacc
  | cons d ds ih =>
    have := ih (fun x hx => h x (by simp [hx])) (acc * 10 + d) (k + 1)
      (by rw [Nat.pow_succ]; exact digit_step_lt hacc (h d (by simp)))
    rwa [List.length_cons, ← Nat.add_assoc, Nat.add_right_comm]

/-- `s.get(n..)` at the end of a prefix of `s` -/
theorem dropBytes_append (p s : List Char) : dropBytes (byteLen p) (p ++ s) = some s := by
  induction p with
  | nil => cases s <;> rfl
  | cons c p ih =>
    have := c.utf8Size_pos
    rw [List.cons_append, byteLen_cons, dropBytes, if_neg (by omega), if_pos (Nat.le_add_right _ _),
      Nat.add_sub_cancel_left, ih]

/-- one more base-256 digit -/
theorem byte_step (q d : Nat) (hd : d < 256) : (q * 256 + d) / 256 = q ∧ (q * 256 + d) % 256 = d := by
  rw [Nat.mul_comm, Nat.mul_add_div (by decide), Nat.mul_add_mod, Nat.div_eq_of_lt hd, Nat.mod_eq_of_lt hd]
  exact ⟨rfl, rfl⟩

theorem fromBe_horner (a b c d : Nat) : fromBe a b c d = ((a * 256 + b) * 256 + c) * 256 + d := by
  simp only [fromBe, Nat.add_mul, Nat.mul_assoc]

theorem toBe_div (n : Nat) :
    toBe n = [n / 256 / 256 / 256 % 256, n / 256 / 256 % 256, n / 256 % 256, n % 256] := by
  simp only [toBe, Nat.div_div_eq_div_mul]

theorem stripPlus_cons (c : Char) (cs : List Char) (h : c ≠ '+') : stripPlus (c :: cs) = c :: cs := by
  unfold stripPlus
  split
  · rename_i r hr
    exact absurd (List.cons.inj hr).1 h
  · rfl

theorem stripPlus_of_not_mem (cs : List Char) (h : '+' ∉ cs) : stripPlus cs = cs := by
  cases cs with
  | nil => rfl
  | cons c cs => exact stripPlus_cons c cs (fun e => h (by simp [e]))

/-- `"<n>".parse::<u32>()` -/
theorem parseU32_decimal (n : Nat) (h : n < 4294967296) : parseU32 (decimal n) = some n := by
  unfold parseU32 parseDigits
  rw [stripPlus_of_not_mem _ (not_mem_decimal n '+' (by decide))]
  simp [decimal_ne_nil, digitsVal_decimal, h]

end TermId
end Hpo
