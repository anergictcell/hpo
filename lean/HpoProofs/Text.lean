import HpoModel.Text
import HpoProps.C20
/-! The text formats read back. For each level of `HpoModel/Text.lean` (std string helper, line, row, stanza,
block, file) a renderer on the specification side and the law that parsing what it renders returns what was
rendered. Blocks of `hp.obo` go through `ReadsAs`, so that a file is any list of blocks each of which reads as
something. At the level of files this is also where the vocabulary is defined in which `TextRefine.lean` and
`HpoProps/C09.lean` speak of what a file states: per format a type of rows (`Item`, `GRow`, `DRow`) with its
`.render`, its side conditions `.Ok` and the Builder calls the rows stand for (`itemsTerms`, `annotateGenes`,
`annotateDiseases`; `buildFromFacts` for the three files together). A further format would follow this pattern.
Core Lean only. -/
namespace Hpo
namespace Text

def joinWith (c : Char) : List (List Char) → List Char
  | [] => []
  | [f] => f
  | f :: g :: r => f ++ c :: joinWith c (g :: r)

def joinStr (sep : List Char) : List (List Char) → List Char
  | [] => []
  | [f] => f
  | f :: g :: r => f ++ sep ++ joinStr sep (g :: r)

theorem joinWith_cons_cons (c : Char) (f g : List Char) (r : List (List Char)) :
    joinWith c (f :: g :: r) = f ++ c :: joinWith c (g :: r) := rfl

theorem joinWith_cons_exists (c : Char) (f : List Char) (r : List (List Char)) :
    ∃ s, joinWith c (f :: r) = f ++ s := by
  cases r with
  | nil => exact ⟨[], by simp [joinWith]⟩
  | cons g r' => exact ⟨_, joinWith_cons_cons c f g r'⟩

/-! ### `split_once(char)`, `split(char)`, `splitn` -/

theorem splitOnce_append (c : Char) (a b : List Char) (h : c ∉ a) :
    splitOnce c (a ++ c :: b) = some (a, b) := by
  induction a with
  | nil => simp [splitOnce]
  | cons x xs ih =>
    have hx : x ≠ c := (List.ne_of_not_mem_cons h).symm
    have hxs : c ∉ xs := List.not_mem_of_not_mem_cons h
    simp [splitOnce, hx, ih hxs]

theorem splitOnce_none (c : Char) (a : List Char) (h : c ∉ a) : splitOnce c a = none := by
  induction a with
  | nil => rfl
  | cons x xs ih =>
    have hx : x ≠ c := (List.ne_of_not_mem_cons h).symm
    have hxs : c ∉ xs := List.not_mem_of_not_mem_cons h
    simp [splitOnce, hx, ih hxs]

theorem splitOnChar_eq (c : Char) (s : List Char) :
    splitOnChar c s = match splitOnce c s with
      | none => [s]
      | some (a, b) => a :: splitOnChar c b := by
  induction s with
  | nil => rfl
  | cons x xs ih =>
    by_cases hx : x = c
    · simp [splitOnChar, splitOnce, hx]
    · rw [splitOnChar, if_neg hx, ih, splitOnce, if_neg hx]
      cases splitOnce c xs <;> rfl

theorem splitN_eq (c : Char) (n : Nat) (s : List Char) :
    splitN c (n + 2) s = match splitOnce c s with
      | none => [s]
      | some (a, b) => a :: splitN c (n + 1) b := by
  induction s with
  | nil => rfl
  | cons x xs ih =>
    by_cases hx : x = c
    · simp [splitN, splitOnce, hx]
    · rw [splitN, if_neg hx, ih, splitOnce, if_neg hx]
      cases splitOnce c xs <;> rfl

theorem splitOnChar_ne_nil (c : Char) (s : List Char) : splitOnChar c s ≠ [] := by
  rw [splitOnChar_eq]
  cases splitOnce c s <;> simp

theorem splitOnChar_noSep (c : Char) (f : List Char) (h : c ∉ f) : splitOnChar c f = [f] := by
  rw [splitOnChar_eq, splitOnce_none c f h]

theorem splitOnChar_append (c : Char) (f rest : List Char) (h : c ∉ f) :
    splitOnChar c (f ++ c :: rest) = f :: splitOnChar c rest := by
  rw [splitOnChar_eq, splitOnce_append c f rest h]

/-! ### prefixes, `split_once(&str)` -/

theorem stripPrefix_eq_some (p s r : List Char) : stripPrefix p s = some r ↔ s = p ++ r := by
  induction p generalizing s with
  | nil => cases s <;> simp [stripPrefix, eq_comm]
  | cons x xs ih =>
    cases s with
    | nil => simp [stripPrefix]
    | cons c cs =>
      by_cases h : x = c
      · simp [stripPrefix, h, ih]
      · simp [stripPrefix, h, Ne.symm h]

theorem stripPrefix_append (p s : List Char) : stripPrefix p (p ++ s) = some s :=
  (stripPrefix_eq_some p _ s).2 rfl

theorem startsWith_append (p s : List Char) : startsWith p (p ++ s) = true := by
  induction p with
  | nil => cases s <;> rfl
  | cons x xs ih => simp [startsWith, ih]

theorem splitOnceStr_colonSp (k v : List Char) (h : ':' ∉ k) :
    splitOnceStr colonSp (k ++ colonSp ++ v) = some (k, v) := by
  induction k with
  | nil => simp [splitOnceStr, colonSp, stripPrefix]
  | cons x xs ih =>
    have hx : ¬ (':' = x) := List.ne_of_not_mem_cons h
    have hxs : ':' ∉ xs := List.not_mem_of_not_mem_cons h
    have := ih hxs
    simp only [List.cons_append, List.append_assoc, colonSp, List.nil_append] at this ⊢
    simp [splitOnceStr, stripPrefix, hx, this]

/-! ### `splitn`, tails of extra columns -/

/-- what may follow the columns a parser looks at: nothing, or a separator and any text -/
def IsTail (c : Char) (tail : List Char) : Prop := tail = [] ∨ ∃ t, tail = c :: t

theorem splitOnChar_tail (c : Char) (f tail : List Char) (h : c ∉ f) (ht : IsTail c tail) :
    ∃ rest, splitOnChar c (f ++ tail) = f :: rest := by
  rcases ht with rfl | ⟨t, rfl⟩
  · exact ⟨[], by simpa using splitOnChar_noSep c f h⟩
  · exact ⟨_, splitOnChar_append c f t h⟩

theorem splitN_noSep (c : Char) (n : Nat) (f : List Char) (h : c ∉ f) : splitN c (n + 1) f = [f] := by
  cases n with
  | zero => cases f <;> rfl
  | succ n => rw [splitN_eq, splitOnce_none c f h]

theorem splitN_append (c : Char) (n : Nat) (f rest : List Char) (h : c ∉ f) :
    splitN c (n + 2) (f ++ c :: rest) = f :: splitN c (n + 1) rest := by
  rw [splitN_eq, splitOnce_append c f rest h]

theorem splitN_tail (c : Char) (n : Nat) (f tail : List Char) (h : c ∉ f) (ht : IsTail c tail) :
    ∃ rest, splitN c (n + 2) (f ++ tail) = f :: rest := by
  rcases ht with rfl | ⟨t, rfl⟩
  · exact ⟨[], by simpa using splitN_noSep c (n + 1) f h⟩
  · exact ⟨_, splitN_append c n f t h⟩

/-! ### `trim` -/

def EndsNonWs (s : List Char) : Prop := ∃ c, s.getLast? = some c ∧ isWs c = false

theorem trimEnd_cons (c : Char) (s : List Char) (h : isWs c = false ∨ trimEnd s ≠ []) :
    trimEnd (c :: s) = c :: trimEnd s := by
  cases hs : trimEnd s with
  | nil => simp [trimEnd, hs, h.resolve_right fun h' => h' hs]
  | cons r rs => simp [trimEnd, hs]

theorem trimEnd_append (a b : List Char) (h : EndsNonWs a) : trimEnd (a ++ b) = a ++ trimEnd b := by
  induction a with
  | nil => obtain ⟨c, hc, _⟩ := h; simp at hc
  | cons x xs ih =>
    obtain ⟨c, hc, hw⟩ := h
    cases xs with
    | nil =>
      obtain rfl : x = c := by simpa using hc
      exact trimEnd_cons x b (Or.inl hw)
    | cons y ys =>
      have e := ih ⟨c, by simpa [List.getLast?_cons_cons] using hc, hw⟩
      rw [List.cons_append, trimEnd_cons x _ (Or.inr (by rw [e]; simp)), e]
      rfl

theorem trimEnd_tail (tail : List Char) (ht : IsTail '\t' tail) : IsTail '\t' (trimEnd tail) := by
  rcases ht with rfl | ⟨t, rfl⟩
  · left; rfl
  · cases h : trimEnd t with
    | nil => left; simp [trimEnd, h, isWs]
    | cons r rs => right; exact ⟨r :: rs, by simp [trimEnd, h]⟩

theorem trimStart_of_head (c : Char) (s : List Char) (h : isWs c = false) : trimStart (c :: s) = c :: s := by
  simp [trimStart, h]

theorem EndsNonWs_append (a b : List Char) (h : EndsNonWs b) : EndsNonWs (a ++ b) := by
  obtain ⟨c, hc, hw⟩ := h
  refine ⟨c, ?_, hw⟩
  rw [List.getLast?_append, hc]; rfl

theorem EndsNonWs_cons (x : Char) (b : List Char) (h : EndsNonWs b) : EndsNonWs (x :: b) :=
  EndsNonWs_append [x] b h

theorem isWs_digitChar (k : Nat) : isWs (TermId.digitChar k) = false :=
  TermId.digitChar_ind (P := fun c => isWs c = false) (by decide) k

theorem decimal_getLast (n : Nat) : (TermId.decimal n).getLast? = some (TermId.digitChar n) := by
  unfold TermId.decimal
  rw [List.getLast?_reverse]
  unfold TermId.digitsRev
  split <;> rfl

theorem EndsNonWs_render (n : Nat) : EndsNonWs (TermId.render n) :=
  EndsNonWs_append _ _ ⟨_, decimal_getLast n, isWs_digitChar n⟩

/-! ### text without separators -/

/-- free text of a row: no column separator, no line break -/
def NoSep (s : List Char) : Prop := '\t' ∉ s ∧ '\n' ∉ s ∧ '\r' ∉ s

def LineOk (l : List Char) : Prop := '\n' ∉ l ∧ '\r' ∉ l ∧ l ≠ []

/-- no line break inside (the last two parts of `NoSep`, the first two of `LineOk`) -/
def NoBreak (s : List Char) : Prop := '\n' ∉ s ∧ '\r' ∉ s

theorem noBreak_nil : NoBreak [] := ⟨by simp, by simp⟩

theorem noBreak_cons (c : Char) (s : List Char) : NoBreak (c :: s) ↔ (c ≠ '\n' ∧ c ≠ '\r') ∧ NoBreak s := by
  simp only [NoBreak, List.mem_cons, not_or, ne_comm (a := c)]
  exact and_and_and_comm

theorem noBreak_append (a b : List Char) : NoBreak (a ++ b) ↔ NoBreak a ∧ NoBreak b := by
  simp only [NoBreak, List.mem_append, not_or]
  exact and_and_and_comm

theorem noBreak_tab (s : List Char) : NoBreak ('\t' :: s) ↔ NoBreak s := by
  rw [noBreak_cons, and_iff_right ⟨by decide, by decide⟩]

theorem noBreak_colon (s : List Char) : NoBreak (':' :: s) ↔ NoBreak s := by
  rw [noBreak_cons, and_iff_right ⟨by decide, by decide⟩]

theorem lineOk_iff (l : List Char) : LineOk l ↔ NoBreak l ∧ l ≠ [] := and_assoc.symm

theorem render_noSep (n : Nat) : NoSep (TermId.render n) :=
  ⟨TermId.not_mem_render n '\t' (by decide) (by decide) (by decide) (by decide),
   TermId.not_mem_render n '\n' (by decide) (by decide) (by decide) (by decide),
   TermId.not_mem_render n '\r' (by decide) (by decide) (by decide) (by decide)⟩

theorem decimal_noSep (n : Nat) : NoSep (TermId.decimal n) :=
  ⟨TermId.not_mem_decimal n '\t' (by decide), TermId.not_mem_decimal n '\n' (by decide),
   TermId.not_mem_decimal n '\r' (by decide)⟩

theorem space_not_mem_render (n : Nat) : ' ' ∉ TermId.render n :=
  TermId.not_mem_render n ' ' (by decide) (by decide) (by decide) (by decide)

/-! ### renderers of rows (specification side) -/

/-- a `genes_to_phenotype.txt` row: gene id, symbol, term id, then `tail` (nothing or more columns) -/
def renderG2P (g : Nat) (sym : List Char) (h : Nat) (tail : List Char) : List Char :=
  TermId.decimal g ++ '\t' :: (sym ++ '\t' :: (TermId.render h ++ tail))

/-- a `phenotype_to_genes.txt` row: term id, term label, gene id, symbol, then `tail` -/
def renderP2G (g : Nat) (sym : List Char) (h : Nat) (label tail : List Char) : List Char :=
  TermId.render h ++ '\t' :: (label ++ '\t' :: (TermId.decimal g ++ '\t' :: (sym ++ tail)))

/-- a `phenotype.hpoa` row: `<db>:<id>`, disease name, qualifier, term id text, then `tail` -/
def renderDiseaseRow (db id name q hpo tail : List Char) : List Char :=
  db ++ ':' :: (id ++ '\t' :: (name ++ '\t' :: (q ++ '\t' :: (hpo ++ tail))))

theorem lineOk_renderDiseaseRow (db id name q hpo tail : List Char) (hdb : NoBreak db) (hid : NoBreak id)
    (hname : NoBreak name) (hq : NoBreak q) (hhpo : NoBreak hpo) (ht : NoBreak tail) :
    LineOk (renderDiseaseRow db id name q hpo tail) := by
  refine (lineOk_iff _).2 ⟨?_, by simp [renderDiseaseRow]⟩
  simp only [renderDiseaseRow, noBreak_append, noBreak_tab, noBreak_colon]
  exact ⟨hdb, hid, hname, hq, hhpo, ht⟩

theorem parseG2P_render (g h : Nat) (sym tail : List Char) (hg : g < 4294967296) (hh : h < 4294967296)
    (hs : '\t' ∉ sym) (ht : IsTail '\t' tail) :
    parseG2P (renderG2P g sym h tail) = .ok (g, sym, h) := by
  unfold parseG2P renderG2P
  rw [splitOnChar_append _ _ _ (decimal_noSep g).1, splitOnChar_append _ _ _ hs]
  obtain ⟨rest, e⟩ := splitOnChar_tail '\t' (TermId.render h) tail
    (render_noSep h).1 ht
  rw [e]
  simp [parseGeneCols, C20.C20_roundtrip h hh, TermId.parseU32_decimal g hg]

theorem parseP2G_render (g h : Nat) (sym label tail : List Char) (hg : g < 4294967296) (hh : h < 4294967296)
    (hs : '\t' ∉ sym) (hl : '\t' ∉ label) (ht : IsTail '\t' tail) :
    parseP2G (renderP2G g sym h label tail) = .ok (g, sym, h) := by
  unfold parseP2G renderP2G
  rw [splitOnChar_append _ _ _ (render_noSep h).1,
    splitOnChar_append _ _ _ hl, splitOnChar_append _ _ _ (decimal_noSep g).1]
  obtain ⟨rest, e⟩ := splitOnChar_tail '\t' sym tail hs ht
  rw [e]
  simp [parseGeneCols, C20.C20_roundtrip h hh, TermId.parseU32_decimal g hg]

/-- `trim` leaves a row whose first column is not cut at the front and whose fourth column ends in a
non-blank character intact up to that column; what follows stays a tail of extra columns -/
theorem trim_diseaseRow (db id name q hpo tail : List Char) (h0 : ∀ s, trimStart (db ++ s) = db ++ s)
    (hend : EndsNonWs hpo) (ht : IsTail '\t' tail) :
    ∃ tail', IsTail '\t' tail' ∧
      trim (renderDiseaseRow db id name q hpo tail) = renderDiseaseRow db id name q hpo tail' := by
  refine ⟨trimEnd tail, trimEnd_tail tail ht, ?_⟩
  unfold trim renderDiseaseRow
  rw [h0]
  have key : ∀ pre : List Char, trimEnd (pre ++ (hpo ++ tail)) = pre ++ (hpo ++ trimEnd tail) := by
    intro pre
    rw [← List.append_assoc, trimEnd_append _ _ (EndsNonWs_append pre hpo hend), List.append_assoc]
  have := key (db ++ ':' :: (id ++ '\t' :: (name ++ '\t' :: (q ++ ['\t']))))
  simpa [List.append_assoc] using this

theorem parseDiseaseComponents_render (db id name q hpo tail : List Char)
    (h0 : ∀ s, trimStart (db ++ s) = db ++ s) (hend : EndsNonWs hpo) (ht : IsTail '\t' tail)
    (hdbc : ':' ∉ db) (hdbt : '\t' ∉ db) (hid : '\t' ∉ id) (hname : '\t' ∉ name) (hq : '\t' ∉ q)
    (hhpo : '\t' ∉ hpo) :
    parseDiseaseComponents (renderDiseaseRow db id name q hpo tail) =
      if q = kNot then .ok none
      else match TermId.parse hpo with
        | none => .err .parseInt
        | some h => .ok (some (id, name, h)) := by
  obtain ⟨tail', ht', e⟩ := trim_diseaseRow db id name q hpo tail h0 hend ht
  unfold parseDiseaseComponents
  rw [e]
  unfold renderDiseaseRow
  have hcol1 : '\t' ∉ db ++ ':' :: id := by simp [hdbt, hid]
  have e1 : ∀ s, db ++ ':' :: (id ++ s) = (db ++ ':' :: id) ++ s := fun s =>
    (List.append_assoc db (':' :: id) s).symm
  rw [e1, splitN_append _ 3 _ _ hcol1, splitN_append _ 2 _ _ hname, splitN_append _ 1 _ _ hq]
  obtain ⟨rest, e2⟩ := splitN_tail '\t' 0 hpo tail' hhpo ht'
  rw [e2]
  simp only [splitOnce_append ':' db id hdbc]
  by_cases hn : q = kNot
  · simp [hn]
  · simp only [hn, if_false]
    cases TermId.parse hpo <;> rfl

/-! ### `lines` -/

theorem stripCr_noCr (l : List Char) (h : '\r' ∉ l) : stripCr l = l := by
  induction l with
  | nil => rfl
  | cons x xs ih =>
    have hx : x ≠ '\r' := (List.ne_of_not_mem_cons h).symm
    have hxs : '\r' ∉ xs := List.not_mem_of_not_mem_cons h
    cases xs with
    | nil => simp [stripCr, hx]
    | cons y ys => simp [stripCr, ih hxs]

theorem linesOf_cons (l : List Char) (ls : List (List Char)) (hne : ls ≠ []) :
    linesOf (l :: ls) = stripCr l :: linesOf ls := by
  cases ls with
  | nil => exact absurd rfl hne
  | cons m r => rfl

theorem lines_cons (l rest : List Char) (h : '\n' ∉ l) :
    lines (l ++ '\n' :: rest) = stripCr l :: lines rest := by
  unfold lines
  rw [splitOnChar_append _ _ _ h, linesOf_cons _ _ (splitOnChar_ne_nil _ _)]

theorem lines_last (l : List Char) (h : '\n' ∉ l) (hne : l ≠ []) : lines l = [l] := by
  unfold lines
  rw [splitOnChar_noSep _ _ h]
  simp [linesOf, hne]

/-- how a row file may end: after the last row, or with one line feed after it; not the line feed alone,
since `"\n".lines()` is one empty row and not none -/
def RowsEnd {α : Type} (rows : List α) (ending : List Char) : Prop :=
  ending = [] ∨ (ending = ['\n'] ∧ rows ≠ [])

theorem lines_rows (rows : List (List Char)) (ending : List Char) (h : ∀ l ∈ rows, LineOk l)
    (hend : RowsEnd rows ending) : lines (joinWith '\n' rows ++ ending) = rows := by
  induction rows with
  | nil =>
    rcases hend with rfl | ⟨_, hne⟩
    · rfl
    · exact absurd rfl hne
  | cons r rs ih =>
    obtain ⟨⟨hn, hr, hne⟩, hrs⟩ := List.forall_mem_cons.1 h
    cases rs with
    | nil =>
      rcases hend with rfl | ⟨rfl, _⟩
      · simpa [joinWith] using lines_last r hn hne
      · rw [joinWith, lines_cons r [] hn, stripCr_noCr r hr]
        rfl
    | cons s rs' =>
      rw [joinWith_cons_cons, List.append_assoc, List.cons_append, lines_cons r _ hn, stripCr_noCr r hr,
        ih hrs (hend.imp id fun h => ⟨h.1, by simp⟩)]

theorem lines_rendered {α : Type} (render : α → List Char) (rows : List α) (ending : List Char)
    (h : ∀ r ∈ rows, LineOk (render r)) (hend : RowsEnd rows ending) :
    lines (joinWith '\n' (rows.map render) ++ ending) = rows.map render := by
  refine lines_rows _ ending ?_ (hend.imp id fun h => ⟨h.1, by simpa using h.2⟩)
  intro l hl
  obtain ⟨r, hr, rfl⟩ := List.mem_map.1 hl
  exact h r hr

/-! ### blocks of lines -/

/-- no blank line inside, no line break at the end: what a block between blank lines looks like -/
def BlockOk : List Char → Prop
  | [] => True
  | [c] => c ≠ '\n'
  | c :: d :: r => ¬ (c = '\n' ∧ d = '\n') ∧ BlockOk (d :: r)

theorem BlockOk_cons (c : Char) (r : List Char) (hc : c ≠ '\n') (hr : BlockOk r) : BlockOk (c :: r) := by
  cases r with
  | nil => exact hc
  | cons d r' => exact ⟨fun e => hc e.1, hr⟩

theorem BlockOk_append (f x : List Char) (hf : '\n' ∉ f) (hx : BlockOk x) : BlockOk (f ++ x) := by
  induction f with
  | nil => exact hx
  | cons c r ih =>
    exact BlockOk_cons c _ (List.ne_of_not_mem_cons hf).symm (ih (List.not_mem_of_not_mem_cons hf))

/-- lines joined with `\n` form a block: a line feed stands only between two lines, and no line is empty -/
theorem BlockOk_lines (ls : List (List Char)) (hne : ls ≠ []) (h : ∀ l ∈ ls, LineOk l) :
    BlockOk (joinWith '\n' ls) := by
  induction ls with
  | nil => exact absurd rfl hne
  | cons f r ih =>
    obtain ⟨⟨hf, _⟩, hr⟩ := List.forall_mem_cons.1 h
    cases r with
    | nil => simpa [joinWith] using BlockOk_append f [] hf trivial
    | cons g r' =>
      have ih' := ih (by simp) hr
      obtain ⟨hg, _, hgne⟩ := (List.forall_mem_cons.1 hr).1
      obtain ⟨t, ht⟩ := joinWith_cons_exists '\n' g r'
      rw [ht] at ih'
      rw [joinWith_cons_cons, ht]
      cases g with
      | nil => exact absurd rfl hgne
      | cons y g' => exact BlockOk_append f _ hf ⟨fun e => hg (by simp [e.2]), ih'⟩

/-- `b` is a block of an obo file that the loader reads as `r`, also when it is the last block and
a line feed follows it -/
def ReadsAs (b : List Char) (r : Block) : Prop :=
  BlockOk b ∧ ∀ e, e = [] ∨ e = ['\n'] → parseBlock (b ++ e) = .ok r

theorem lines_block (ls : List (List Char)) (hne : ls ≠ []) (h : ∀ l ∈ ls, LineOk l) (e : List Char)
    (he : e = [] ∨ e = ['\n']) : lines (joinWith '\n' ls ++ e) = ls :=
  lines_rows ls e h (he.imp id fun h => ⟨h, hne⟩)

/-! ### `[Term]` stanzas -/

def kIsa : List Char := ['i', 's', '_', 'a']

def kvLine (k v : List Char) : List Char := k ++ colonSp ++ v

/-- `is_a: HP:0000001 ! label` -/
def isaLine (p : Nat × List Char) : List Char :=
  isaPrefix ++ (TermId.render p.1 ++ ' ' :: '!' :: ' ' :: p.2)

/-- a key the loader does not look at (alt_id, def, comment, synonym, xref, created_by, …) -/
def Neutral (k : List Char) : Prop :=
  ':' ∉ k ∧ k ≠ kId ∧ k ≠ kName ∧ k ≠ kObsolete ∧ k ≠ kReplaced ∧ k ≠ kIsa

/-- a tag other than `is_a` that may be the key of a `key: value` line of a stanza -/
def KeyOk (k : List Char) : Prop := ':' ∉ k ∧ k ≠ kIsa ∧ LineOk k

/-- the loader-relevant tags after the `is_a` lines -/
def tailPairs (obs : Bool) (repl : Option Nat) (extras2 : List (List Char × List Char)) :
    List (List Char × List Char) :=
  (if obs then [(kObsolete, kTrue)] else []) ++
    ((match repl with
      | some r => [(kReplaced, TermId.render r)]
      | none => []) ++ extras2)

/-- the lines of a JAX `[Term]` stanza: id, name, other tags, one `is_a` line per parent (with its
label), `is_obsolete: true`, `replaced_by`, more other tags -/
def stanzaLines (id : Nat) (name : List Char) (obs : Bool) (repl : Option Nat)
    (parents : List (Nat × List Char)) (extras1 extras2 : List (List Char × List Char)) : List (List Char) :=
  (((kId, TermId.render id) :: (kName, name) :: extras1).map fun e => kvLine e.1 e.2)
    ++ (parents.map isaLine ++ (tailPairs obs repl extras2).map fun e => kvLine e.1 e.2)

def renderStanza (id : Nat) (name : List Char) (obs : Bool) (repl : Option Nat)
    (parents : List (Nat × List Char)) (extras1 extras2 : List (List Char × List Char)) : List Char :=
  termPrefix ++ joinWith '\n' (stanzaLines id name obs repl parents extras1 extras2)

theorem scanFields_append (a b : List (List Char)) (f : Fields) :
    scanFields (a ++ b) f = (scanFields a f).bind (scanFields b) := by
  induction a generalizing f with
  | nil => rfl
  | cons l ls ih =>
    simp only [List.cons_append, scanFields]
    cases splitOnceStr colonSp l with
    | none => rfl
    | some p => exact ih _

theorem scanFields_kv (k v : List Char) (hk : ':' ∉ k) (ls : List (List Char)) (f : Fields) :
    scanFields (kvLine k v :: ls) f = scanFields ls (f.set k v) := by
  simp only [scanFields, kvLine, splitOnceStr_colonSp k v hk]

theorem set_neutral (f : Fields) (k v : List Char) (h : Neutral k) : f.set k v = f := by
  obtain ⟨_, h1, h2, h3, h4, _⟩ := h
  simp [Fields.set, h1, h2, h3, h4]

theorem set_kId (f : Fields) (v : List Char) : f.set kId v = { f with id := some v } := rfl
theorem set_kName (f : Fields) (v : List Char) : f.set kName v = { f with name := some v } := rfl
theorem set_kObsolete (f : Fields) (v : List Char) : f.set kObsolete v = { f with obsolete := some v } := rfl
theorem set_kReplaced (f : Fields) (v : List Char) : f.set kReplaced v = { f with replaced := some v } := rfl
theorem set_kIsa (f : Fields) (v : List Char) : f.set kIsa v = f := rfl

theorem scanFields_neutral (es : List (List Char × List Char)) (h : ∀ e ∈ es, Neutral e.1)
    (ls : List (List Char)) (f : Fields) :
    scanFields ((es.map fun e => kvLine e.1 e.2) ++ ls) f = scanFields ls f := by
  induction es with
  | nil => rfl
  | cons e r ih =>
    obtain ⟨he, hr⟩ := List.forall_mem_cons.1 h
    simp only [List.map_cons, List.cons_append]
    rw [scanFields_kv _ _ he.1, set_neutral f _ _ he]
    exact ih hr

theorem isaLine_eq (p : Nat × List Char) :
    isaLine p = kvLine kIsa (TermId.render p.1 ++ ' ' :: '!' :: ' ' :: p.2) := by
  simp [isaLine, kvLine, isaPrefix, kIsa, colonSp]

theorem scanFields_isa (ps : List (Nat × List Char)) (ls : List (List Char)) (f : Fields) :
    scanFields (ps.map isaLine ++ ls) f = scanFields ls f := by
  induction ps with
  | nil => rfl
  | cons p r ih =>
    simp only [List.map_cons, List.cons_append]
    rw [isaLine_eq, scanFields_kv _ _ (by decide), set_kIsa]
    exact ih

/-- a `key: value` line is an `is_a: ` line only if its key is `is_a`: the key is what stands before
the first colon -/
theorem stripPrefix_isa_kv (k v : List Char) (hc : ':' ∉ k) (hk : k ≠ kIsa) :
    stripPrefix isaPrefix (kvLine k v) = none := by
  cases h : stripPrefix isaPrefix (kvLine k v) with
  | none => rfl
  | some r =>
    have e : k ++ ':' :: ' ' :: v = kIsa ++ ':' :: ' ' :: r := by
      simpa [kvLine, colonSp, isaPrefix, kIsa] using (stripPrefix_eq_some _ _ _).1 h
    have h1 := splitOnce_append ':' k (' ' :: v) hc
    rw [e, splitOnce_append ':' kIsa (' ' :: r) (by decide)] at h1
    exact absurd (congrArg Prod.fst (Option.some.inj h1)).symm hk

theorem isaParents_skip (es : List (List Char × List Char)) (h : ∀ e ∈ es, KeyOk e.1)
    (ls : List (List Char)) :
    isaParents ((es.map fun e => kvLine e.1 e.2) ++ ls) = isaParents ls := by
  induction es with
  | nil => rfl
  | cons e r ih =>
    obtain ⟨he, hr⟩ := List.forall_mem_cons.1 h
    simp only [List.map_cons, List.cons_append, isaParents]
    rw [stripPrefix_isa_kv _ _ he.1 he.2.1]
    exact ih hr

theorem isaParents_isa (ps : List (Nat × List Char)) (h : ∀ p ∈ ps, p.1 < 4294967296)
    (ls : List (List Char)) :
    isaParents (ps.map isaLine ++ ls) = (isaParents ls).bind fun r => .ok (ps.map (·.1) ++ r) := by
  induction ps with
  | nil => simp only [List.map_nil, List.nil_append]; cases isaParents ls <;> rfl
  | cons p r ih =>
    obtain ⟨hp, hr⟩ := List.forall_mem_cons.1 h
    simp only [List.map_cons, List.cons_append, isaParents]
    rw [show isaLine p = isaPrefix ++ (TermId.render p.1 ++ ' ' :: ('!' :: ' ' :: p.2)) from rfl,
      stripPrefix_append]
    simp only []
    rw [splitOnce_append ' ' _ _ (space_not_mem_render p.1)]
    simp only [C20.C20_roundtrip p.1 hp]
    rw [ih hr]
    cases isaParents ls <;> rfl

theorem lineOk_kv (k v : List Char) (hk : LineOk k) (hv : NoBreak v) : LineOk (kvLine k v) := by
  obtain ⟨hk, hne⟩ := (lineOk_iff k).1 hk
  refine (lineOk_iff _).2 ⟨?_, by simp [kvLine, hne]⟩
  simp only [kvLine, noBreak_append]
  exact ⟨⟨hk, by decide, by decide⟩, hv⟩

theorem keyOk_kId : KeyOk kId := ⟨by decide, by decide, by decide, by decide, by decide⟩
theorem keyOk_kName : KeyOk kName := ⟨by decide, by decide, by decide, by decide, by decide⟩
theorem keyOk_kObsolete : KeyOk kObsolete := ⟨by decide, by decide, by decide, by decide, by decide⟩
theorem keyOk_kReplaced : KeyOk kReplaced := ⟨by decide, by decide, by decide, by decide, by decide⟩

theorem lineOk_isa (p : Nat × List Char) (h : NoBreak p.2) : LineOk (isaLine p) := by
  rw [isaLine_eq]
  refine lineOk_kv _ _ ⟨by decide, by decide, by decide⟩ ?_
  show NoBreak (TermId.render p.1 ++ ([' ', '!', ' '] ++ p.2))
  simp only [noBreak_append]
  exact ⟨(render_noSep p.1).2, ⟨by decide, by decide⟩, h⟩

/-- the side conditions on the free text of a stanza: no line breaks in names, labels, other tags;
the other tags have keys the loader ignores -/
structure StanzaOk (name : List Char) (parents : List (Nat × List Char))
    (extras1 extras2 : List (List Char × List Char)) : Prop where
  name : '\n' ∉ name ∧ '\r' ∉ name
  labels : ∀ p ∈ parents, '\n' ∉ p.2 ∧ '\r' ∉ p.2
  extras : ∀ e ∈ extras1 ++ extras2, Neutral e.1 ∧ LineOk e.1 ∧ '\n' ∉ e.2 ∧ '\r' ∉ e.2

theorem stanza_pairs_ok (id : Nat) {name : List Char} (obs : Bool) (repl : Option Nat)
    {parents : List (Nat × List Char)} {extras1 extras2 : List (List Char × List Char)}
    (hok : StanzaOk name parents extras1 extras2) :
    ∀ e ∈ ((kId, TermId.render id) :: (kName, name) :: extras1) ++ tailPairs obs repl extras2,
      KeyOk e.1 ∧ NoBreak e.2 := by
  have hex : ∀ e ∈ extras1 ++ extras2, KeyOk e.1 ∧ NoBreak e.2 := fun e he =>
    have h := hok.extras e he
    ⟨⟨h.1.1, h.1.2.2.2.2.2, h.2.1⟩, h.2.2⟩
  intro e he
  simp only [tailPairs, List.cons_append, List.mem_cons, List.mem_append] at he
  rcases he with rfl | rfl | he | he | he | he
  · exact ⟨keyOk_kId, (render_noSep id).2⟩
  · exact ⟨keyOk_kName, hok.name⟩
  · exact hex e (List.mem_append_left _ he)
  · cases obs <;> simp at he
    subst he; exact ⟨keyOk_kObsolete, by decide, by decide⟩
  · cases repl <;> simp at he
    subst he; exact ⟨keyOk_kReplaced, (render_noSep _).2⟩
  · exact hex e (List.mem_append_right _ he)

theorem stanzaLines_ok (id : Nat) (name : List Char) (obs : Bool) (repl : Option Nat)
    (parents : List (Nat × List Char)) (extras1 extras2 : List (List Char × List Char))
    (hok : StanzaOk name parents extras1 extras2) :
    ∀ l ∈ stanzaLines id name obs repl parents extras1 extras2, LineOk l := by
  intro l hl
  have P := stanza_pairs_ok id obs repl hok
  simp only [stanzaLines, List.mem_append, List.mem_map] at hl
  rcases hl with ⟨e, he, rfl⟩ | ⟨p, hp, rfl⟩ | ⟨e, he, rfl⟩
  · obtain ⟨hk, hv⟩ := P e (List.mem_append_left _ he)
    exact lineOk_kv _ _ hk.2.2 hv
  · exact lineOk_isa p (hok.labels p hp)
  · obtain ⟨hk, hv⟩ := P e (List.mem_append_right _ he)
    exact lineOk_kv _ _ hk.2.2 hv

theorem isaParents_pairs_nil (es : List (List Char × List Char)) (h : ∀ e ∈ es, KeyOk e.1) :
    isaParents (es.map fun e => kvLine e.1 e.2) = .ok [] := by
  have := isaParents_skip es h []
  simpa [isaParents] using this

theorem parseBlock_stanza (id : Nat) (name : List Char) (obs : Bool) (repl : Option Nat)
    (parents : List (Nat × List Char)) (extras1 extras2 : List (List Char × List Char))
    (hid : id < 4294967296) (hrepl : ∀ r, repl = some r → r < 4294967296)
    (hpar : ∀ p ∈ parents, p.1 < 4294967296) (hok : StanzaOk name parents extras1 extras2)
    (ending : List Char) (hend : ending = [] ∨ ending = ['\n']) :
    parseBlock (renderStanza id name obs repl parents extras1 extras2 ++ ending) =
      .ok (.term { id := id, name := name, obsolete := obs, replacement := repl } (parents.map (·.1))) := by
  have hlines := lines_block _ (by simp [stanzaLines])
    (stanzaLines_ok id name obs repl parents extras1 extras2 hok) ending hend
  have hn1 : ∀ e ∈ extras1, Neutral e.1 := fun e he => (hok.extras e (by simp [he])).1
  have hn2 : ∀ e ∈ extras2, Neutral e.1 := fun e he => (hok.extras e (by simp [he])).1
  have hscan : scanFields (stanzaLines id name obs repl parents extras1 extras2) {} =
      .ok { id := some (TermId.render id), name := some name,
            obsolete := if obs then some kTrue else none,
            replaced := repl.map TermId.render } := by
    unfold stanzaLines
    simp only [List.map_cons, List.cons_append]
    rw [scanFields_kv _ _ keyOk_kId.1, scanFields_kv _ _ keyOk_kName.1,
      scanFields_neutral extras1 hn1, scanFields_isa]
    unfold tailPairs
    have e2 : ∀ f : Fields, scanFields (extras2.map fun e => kvLine e.1 e.2) f = .ok f := by
      intro f
      have := scanFields_neutral extras2 hn2 [] f
      simpa [scanFields] using this
    cases obs <;> cases repl <;>
      simp only [Bool.false_eq_true, if_false, if_true, List.nil_append, List.cons_append, List.map_cons,
        scanFields_kv _ _ keyOk_kObsolete.1, scanFields_kv _ _ keyOk_kReplaced.1, set_kId, set_kName,
        set_kObsolete, set_kReplaced, e2, Option.map_some, Option.map_none]
  have hterm : termFromObo (stanzaLines id name obs repl parents extras1 extras2) =
      .ok (some { id := id, name := name, obsolete := obs, replacement := repl }) := by
    unfold termFromObo
    rw [hscan]
    cases repl with
    | none => cases obs <;> simp [Res.bind, fieldsTerm, C20.C20_roundtrip id hid, kTrue]
    | some r => cases obs <;> simp [Res.bind, fieldsTerm, C20.C20_roundtrip id hid, C20.C20_roundtrip r (hrepl r rfl), kTrue]
  have hisa : isaParents (stanzaLines id name obs repl parents extras1 extras2) = .ok (parents.map (·.1)) := by
    have P := stanza_pairs_ok id obs repl hok
    unfold stanzaLines
    rw [isaParents_skip _ (fun e he => (P e (List.mem_append_left _ he)).1), isaParents_isa parents hpar,
      isaParents_pairs_nil _ (fun e he => (P e (List.mem_append_right _ he)).1)]
    simp only [Res.bind, List.append_nil]
  unfold parseBlock renderStanza
  rw [List.append_assoc, stripPrefix_append]
  simp only [hlines, hterm, hisa, Res.bind]

/-! ### other blocks, the header block -/

theorem parseBlock_other (b : List Char) (h1 : stripPrefix termPrefix b = none)
    (h2 : startsWith formatPrefix b = false) : parseBlock b = .ok .other := by
  simp [parseBlock, h1, h2]

theorem parseBlock_format (b : List Char) (h1 : stripPrefix termPrefix b = none)
    (h2 : startsWith formatPrefix b = true) :
    parseBlock b = (versionFromLines (lines b)).bind fun v => .ok (.header (v.getD (0, 0, 0))) := by
  simp [parseBlock, h1, h2]

/-- `YYYY-MM-DD` from its eight digits -/
def dateText (y1 y2 y3 y4 m1 m2 d1 d2 : Nat) : List Char :=
  [TermId.digitChar y1, TermId.digitChar y2, TermId.digitChar y3, TermId.digitChar y4, '-',
   TermId.digitChar m1, TermId.digitChar m2, '-', TermId.digitChar d1, TermId.digitChar d2]

def versionLine (y1 y2 y3 y4 m1 m2 d1 d2 : Nat) : List Char :=
  versionPrefix ++ dateText y1 y2 y3 y4 m1 m2 d1 d2

/-- `"<digits>".parse::<uN>()`: `k` digits fit when `10^k ≤ 2^N` -/
theorem parseUnsigned_digits (bound d : Nat) (ds : List Nat) (h : ∀ x ∈ d :: ds, x < 10)
    (hb : 10 ^ (d :: ds).length ≤ bound) :
    parseUnsigned bound ((d :: ds).map TermId.digitChar) =
      some ((d :: ds).foldl (fun a x => a * 10 + x) 0) := by
  have hlt := TermId.foldl_digits_lt (d :: ds) h 0 0 (by decide)
  rw [Nat.zero_add] at hlt
  unfold parseUnsigned
  rw [List.map_cons, TermId.stripPlus_cons _ _ (TermId.digitChar_ne d '+' (by decide)), ← List.map_cons,
    TermId.digitsVal_digits _ h]
  simp only [List.map_cons, List.isEmpty_cons, Bool.false_eq_true, if_false, if_pos (Nat.lt_of_lt_of_le hlt hb)]

theorem takeBytes_append (p s : List Char) : takeBytes (TermId.byteLen p) (p ++ s) = some p := by
  induction p with
  | nil => cases s <;> rfl
  | cons c p ih =>
    rw [List.cons_append, TermId.byteLen_cons, takeBytes, if_neg (Nat.ne_of_gt (Nat.add_pos_left c.utf8Size_pos _)),
      if_pos (Nat.le_add_right _ _), Nat.add_sub_cancel_left, ih]

/-- `&s[i..j]` where `i` and `j` are the ends of two successive pieces of `s` -/
theorem sliceBytes_append (a b c : List Char) :
    sliceBytes (TermId.byteLen a) (TermId.byteLen a + TermId.byteLen b) (a ++ (b ++ c)) = some b := by
  simp only [sliceBytes, TermId.dropBytes_append, Nat.add_sub_cancel_left, takeBytes_append]

/-- `version_from_obo` cuts what follows the prefix at bytes 0..4, 5..7 and 8..10; it does not look at
the two separators -/
theorem versionOfLine_parts (Y M D : List Char) (s1 s2 : Char) (hY : TermId.byteLen Y = 4)
    (hM : TermId.byteLen M = 2) (hD : TermId.byteLen D = 2) (h1 : s1.utf8Size = 1) (h2 : s2.utf8Size = 1) :
    versionOfLine (versionPrefix ++ (Y ++ s1 :: (M ++ s2 :: D))) =
      .ok (some ((parseUnsigned 65536 Y).getD 0, (parseUnsigned 256 M).getD 0, (parseUnsigned 256 D).getD 0)) := by
  have e1 := sliceBytes_append [] Y (s1 :: (M ++ s2 :: D))
  have e2 := sliceBytes_append (Y ++ [s1]) M (s2 :: D)
  have e3 := sliceBytes_append (Y ++ s1 :: (M ++ [s2])) D []
  have hlen : TermId.byteLen (Y ++ s1 :: (M ++ s2 :: D)) = 10 := by
    simp only [TermId.byteLen_append, TermId.byteLen_cons, hY, hM, hD, h1, h2]
  simp only [TermId.byteLen_append, TermId.byteLen_cons, TermId.byteLen_nil, hY, hM, hD, h1, h2, Nat.reduceAdd,
    List.append_assoc, List.cons_append, List.nil_append, List.append_nil] at e1 e2 e3
  unfold versionOfLine
  rw [stripPrefix_append]
  simp only [hlen, if_true, e1, e2, e3]

/-- the `data-version: hp/releases/YYYY-MM-DD` line yields (YYYY, MM, DD) -/
theorem versionOfLine_date (y1 y2 y3 y4 m1 m2 d1 d2 : Nat) (hy1 : y1 < 10) (hy2 : y2 < 10)
    (hy3 : y3 < 10) (hy4 : y4 < 10) (hm1 : m1 < 10) (hm2 : m2 < 10) (hd1 : d1 < 10) (hd2 : d2 < 10) :
    versionOfLine (versionLine y1 y2 y3 y4 m1 m2 d1 d2) =
      .ok (some (1000 * y1 + 100 * y2 + 10 * y3 + y4, 10 * m1 + m2, 10 * d1 + d2)) := by
  have h := versionOfLine_parts ([y1, y2, y3, y4].map TermId.digitChar) ([m1, m2].map TermId.digitChar)
    ([d1, d2].map TermId.digitChar) '-' '-' (TermId.byteLen_digits _) (TermId.byteLen_digits _)
    (TermId.byteLen_digits _) (by decide) (by decide)
  rw [parseUnsigned_digits 65536 y1 [y2, y3, y4] (by simp [*]) (by simp),
    parseUnsigned_digits 256 m1 [m2] (by simp [*]) (by simp),
    parseUnsigned_digits 256 d1 [d2] (by simp [*]) (by simp)] at h
  simp only [List.foldl, Option.getD_some, Nat.mul_comm _ 10, Nat.mul_zero, Nat.zero_add, Nat.mul_add,
    ← Nat.mul_assoc, Nat.reduceMul] at h
  exact h

theorem versionFromLines_skip (pre : List (List Char)) (h : ∀ l ∈ pre, stripPrefix versionPrefix l = none)
    (ls : List (List Char)) : versionFromLines (pre ++ ls) = versionFromLines ls := by
  induction pre with
  | nil => rfl
  | cons l r ih =>
    obtain ⟨hl, hr⟩ := List.forall_mem_cons.1 h
    simp only [List.cons_append, versionFromLines, versionOfLine, hl]
    exact ih hr

/-- the header block: `format-version: 1.2`, other header lines, the data-version line, more lines -/
def headerLines (pre post : List (List Char)) (y1 y2 y3 y4 m1 m2 d1 d2 : Nat) : List (List Char) :=
  (formatPrefix :: pre) ++ versionLine y1 y2 y3 y4 m1 m2 d1 d2 :: post

theorem joinWith_cons_startsWith (c : Char) (f : List Char) (r : List (List Char)) :
    startsWith f (joinWith c (f :: r)) = true := by
  obtain ⟨s, hs⟩ := joinWith_cons_exists c f r
  rw [hs]
  exact startsWith_append f s

theorem joinWith_cons_stripPrefix_none (c : Char) (p f : List Char) (r : List (List Char)) (x y : Char)
    (p' f' : List Char) (hp : p = x :: p') (hf : f = y :: f') (hxy : x ≠ y) :
    stripPrefix p (joinWith c (f :: r)) = none := by
  subst hp hf
  cases r with
  | nil => simp [joinWith, stripPrefix, hxy]
  | cons g r' => rw [joinWith_cons_cons]; simp [stripPrefix, hxy]

theorem lineOk_versionLine (y1 y2 y3 y4 m1 m2 d1 d2 : Nat) : LineOk (versionLine y1 y2 y3 y4 m1 m2 d1 d2) := by
  have hd : ∀ k, TermId.digitChar k ≠ '\n' ∧ TermId.digitChar k ≠ '\r' := fun k =>
    ⟨TermId.digitChar_ne k '\n' (by decide), TermId.digitChar_ne k '\r' (by decide)⟩
  refine (lineOk_iff _).2 ⟨?_, List.cons_ne_nil _ _⟩
  simp only [versionLine, dateText, noBreak_append, noBreak_cons]
  exact ⟨⟨by decide, by decide⟩, hd y1, hd y2, hd y3, hd y4, ⟨by decide, by decide⟩, hd m1, hd m2,
    ⟨by decide, by decide⟩, hd d1, hd d2, noBreak_nil⟩

theorem header_readsAs (pre post : List (List Char)) (vl : List Char) (v : Nat × Nat × Nat)
    (hv : versionOfLine vl = .ok (some v)) (hvl : LineOk vl)
    (hpre : ∀ l ∈ pre, stripPrefix versionPrefix l = none) (hok : ∀ l ∈ pre ++ post, LineOk l) :
    ReadsAs (joinWith '\n' ((formatPrefix :: pre) ++ vl :: post)) (.header v) := by
  have hls : ∀ l ∈ (formatPrefix :: pre) ++ vl :: post, LineOk l := by
    intro l hl
    simp only [List.cons_append, List.mem_cons, List.mem_append] at hl
    rcases hl with rfl | hl | rfl | hl
    · exact ⟨by decide, by decide, by decide⟩
    · exact hok l (by simp [hl])
    · exact hvl
    · exact hok l (by simp [hl])
  refine ⟨BlockOk_lines _ (by simp) hls, fun ending hend => ?_⟩
  obtain ⟨t, ht⟩ := joinWith_cons_exists '\n' formatPrefix (pre ++ vl :: post)
  have hform : joinWith '\n' ((formatPrefix :: pre) ++ vl :: post) ++ ending = formatPrefix ++ (t ++ ending) := by
    rw [List.cons_append, ht, List.append_assoc]
  have hvs : versionFromLines ((formatPrefix :: pre) ++ vl :: post) = .ok (some v) := by
    rw [versionFromLines_skip (formatPrefix :: pre) (by
      intro l hl
      rcases List.mem_cons.1 hl with rfl | hl
      · decide
      · exact hpre l hl)]
    simp only [versionFromLines, hv]
  rw [parseBlock_format _ (by rw [hform]; rfl) (by rw [hform]; exact startsWith_append _ _),
    lines_block _ (by simp) hls ending hend, hvs]
  rfl

theorem headerLines_readsAs (pre post : List (List Char)) (y1 y2 y3 y4 m1 m2 d1 d2 : Nat)
    (hy1 : y1 < 10) (hy2 : y2 < 10) (hy3 : y3 < 10) (hy4 : y4 < 10) (hm1 : m1 < 10) (hm2 : m2 < 10)
    (hd1 : d1 < 10) (hd2 : d2 < 10)
    (hpre : ∀ l ∈ pre, stripPrefix versionPrefix l = none) (hok : ∀ l ∈ pre ++ post, LineOk l) :
    ReadsAs (joinWith '\n' (headerLines pre post y1 y2 y3 y4 m1 m2 d1 d2))
      (.header (1000 * y1 + 100 * y2 + 10 * y3 + y4, 10 * m1 + m2, 10 * d1 + d2)) :=
  header_readsAs pre post _ _ (versionOfLine_date y1 y2 y3 y4 m1 m2 d1 d2 hy1 hy2 hy3 hy4 hm1 hm2 hd1 hd2)
    (lineOk_versionLine y1 y2 y3 y4 m1 m2 d1 d2) hpre hok

/-! ### `split("\n\n")`, whole obo files -/

theorem foldr_consHead (b p : List Char) (ps : List (List Char)) :
    b.foldr consHead (p :: ps) = (b ++ p) :: ps := by
  induction b with
  | nil => rfl
  | cons c r ih => simp [ih, consHead]

/-- no blank line begins inside a block, so `split("\n\n")` passes over it: the block is prepended to
the first piece of what follows, whatever follows -/
theorem splitOnStrGo_prefix (b rest : List Char) (h : BlockOk b) :
    splitOnStrGo blankLine 0 (b ++ rest) = b.foldr consHead (splitOnStrGo blankLine 0 rest) := by
  induction b with
  | nil => rfl
  | cons c r ih =>
    have hs : startsWith blankLine (c :: (r ++ rest)) = false := by
      cases r with
      | nil =>
        have hc : ¬ ('\n' = c) := fun e => h e.symm
        simp [blankLine, startsWith, hc]
      | cons d r' =>
        by_cases hc : '\n' = c
        · have hd : ¬ ('\n' = d) := fun e => h.1 ⟨hc.symm, e.symm⟩
          simp [blankLine, startsWith, hd]
        · simp [blankLine, startsWith, hc]
    have hr : BlockOk r := by
      cases r with
      | nil => trivial
      | cons d r' => exact h.2
    rw [List.cons_append, splitOnStrGo, if_neg (by simp [hs]), ih hr, List.foldr_cons]

theorem splitOnStrGo_block (b rest : List Char) (h : BlockOk b) :
    splitOnStrGo blankLine 0 (b ++ blankLine ++ rest) = b :: splitOnStrGo blankLine 0 rest := by
  rw [List.append_assoc, splitOnStrGo_prefix b _ h]
  simp [splitOnStrGo, blankLine, startsWith, foldr_consHead]

theorem splitOnStrGo_last (b e : List Char) (h : BlockOk b) (he : e = [] ∨ e = ['\n']) :
    splitOnStrGo blankLine 0 (b ++ e) = [b ++ e] := by
  rw [splitOnStrGo_prefix b _ h]
  rcases he with rfl | rfl <;> simp [splitOnStrGo, blankLine, startsWith, consHead, foldr_consHead]

theorem readBlocks_joinStr (bs : List (List Char × Block)) (hne : bs ≠ []) (h : ∀ p ∈ bs, ReadsAs p.1 p.2)
    (e : List Char) (he : e = [] ∨ e = ['\n'] ∨ e = blankLine) (o : Obo) :
    readBlocks (splitOnStrGo blankLine 0 (joinStr blankLine (bs.map (·.1)) ++ e)) o =
      .ok ((bs.map (·.2)).foldl Obo.push o) := by
  induction bs generalizing o with
  | nil => exact absurd rfl hne
  | cons p r ih =>
    obtain ⟨⟨hb, hp⟩, hr⟩ := List.forall_mem_cons.1 h
    have hp0 := hp [] (Or.inl rfl)
    rw [List.append_nil] at hp0
    cases r with
    | nil =>
      rcases or_assoc.2 he with he | rfl
      · simp only [List.map_cons, List.map_nil, joinStr, splitOnStrGo_last p.1 e hb he, readBlocks, hp e he,
          Res.bind, List.foldl_cons, List.foldl_nil]
      · -- a blank line after the last block: `split` yields one more, empty, block
        rw [List.map_cons, List.map_nil, joinStr, ← List.append_nil (p.1 ++ blankLine), splitOnStrGo_block p.1 [] hb]
        simp only [splitOnStrGo, readBlocks, hp0, parseBlock_other [] rfl rfl, Res.bind, Obo.push,
          List.map_cons, List.map_nil, List.foldl_cons, List.foldl_nil]
    | cons q r' =>
      rw [List.map_cons, List.map_cons, joinStr, List.append_assoc, splitOnStrGo_block p.1 _ hb, ← List.map_cons]
      simp only [readBlocks, hp0, Res.bind, List.map_cons, List.foldl_cons]
      exact ih (by simp) hr _

theorem readObo_blocks (bs : List (List Char × Block)) (hne : bs ≠ []) (h : ∀ p ∈ bs, ReadsAs p.1 p.2)
    (e : List Char) (he : e = [] ∨ e = ['\n'] ∨ e = blankLine) :
    readObo (joinStr blankLine (bs.map (·.1)) ++ e) = .ok ((bs.map (·.2)).foldl Obo.push {}) :=
  readBlocks_joinStr bs hne h e he {}

/-- a block of an obo file after the header -/
inductive Item where
  | stanza (id : Nat) (name : List Char) (obs : Bool) (repl : Option Nat)
      (parents : List (Nat × List Char)) (extras1 extras2 : List (List Char × List Char))
  /-- any other stanza: first line `tag` (e.g. `[Typedef]`), then further lines -/
  | other (tag : List Char) (ls : List (List Char))

def Item.render : Item → List Char
  | .stanza id name obs repl parents e1 e2 => renderStanza id name obs repl parents e1 e2
  | .other tag ls => joinWith '\n' (tag :: ls)

def Item.result : Item → Block
  | .stanza id name obs repl parents _ _ =>
    .term { id := id, name := name, obsolete := obs, replacement := repl } (parents.map (·.1))
  | .other _ _ => .other

def Item.Ok : Item → Prop
  | .stanza id name _ repl parents e1 e2 =>
    id < 4294967296 ∧ (∀ r, repl = some r → r < 4294967296) ∧ (∀ p ∈ parents, p.1 < 4294967296) ∧
      StanzaOk name parents e1 e2
  | .other tag ls =>
    (∀ l ∈ tag :: ls, LineOk l) ∧ (∀ s, stripPrefix termPrefix (tag ++ s) = none) ∧
      (∀ s, startsWith formatPrefix (tag ++ s) = false)

/-- the term stanzas of a file, in file order -/
def itemsTerms : List Item → List (Term × List Nat)
  | [] => []
  | .stanza id name obs repl parents _ _ :: r =>
    ({ id := id, name := name, obsolete := obs, replacement := repl }, parents.map (·.1)) :: itemsTerms r
  | .other _ _ :: r => itemsTerms r

def Item.term? : Item → Option (Term × List Nat)
  | .stanza id name obs repl parents _ _ =>
    some ({ id := id, name := name, obsolete := obs, replacement := repl }, parents.map (·.1))
  | .other _ _ => none

theorem itemsTerms_eq (items : List Item) : itemsTerms items = items.filterMap Item.term? := by
  induction items with
  | nil => rfl
  | cons i r ih => cases i <;> simp [itemsTerms, Item.term?, ih, List.filterMap_cons]

theorem foldl_push_items (items : List Item) (o : Obo) :
    (items.map Item.result).foldl Obo.push o = { o with terms := o.terms ++ itemsTerms items } := by
  induction items generalizing o with
  | nil => simp [itemsTerms]
  | cons i r ih =>
    cases i with
    | stanza id name obs repl parents e1 e2 =>
      simp [Item.result, Obo.push, ih, itemsTerms]
    | other tag ls => simp [Item.result, Obo.push, ih, itemsTerms]

def tagTerm : List Char := ['[', 'T', 'e', 'r', 'm', ']']

/-- `renderStanza` is written `termPrefix ++ …` because `parseBlock` strips that prefix together with its
line feed; `BlockOk_lines` wants the same text as a list of lines, the tag being the first -/
theorem renderStanza_eq (id : Nat) (name : List Char) (obs : Bool) (repl : Option Nat)
    (parents : List (Nat × List Char)) (e1 e2 : List (List Char × List Char)) :
    renderStanza id name obs repl parents e1 e2 =
      joinWith '\n' (tagTerm :: stanzaLines id name obs repl parents e1 e2) := by
  simp [renderStanza, stanzaLines, joinWith_cons_cons, tagTerm, termPrefix]

theorem Item.readsAs (i : Item) (h : i.Ok) : ReadsAs i.render i.result := by
  cases i with
  | stanza id name obs repl parents e1 e2 =>
    obtain ⟨h1, h2, h3, h4⟩ := h
    refine ⟨?_, fun e he => parseBlock_stanza id name obs repl parents e1 e2 h1 h2 h3 h4 e he⟩
    simp only [Item.render]
    rw [renderStanza_eq]
    refine BlockOk_lines _ (by simp) ?_
    intro l hl
    rcases List.mem_cons.1 hl with rfl | hl
    · exact ⟨by decide, by decide, by decide⟩
    · exact stanzaLines_ok id name obs repl parents e1 e2 h4 l hl
  | other tag ls =>
    obtain ⟨h1, h2, h3⟩ := h
    refine ⟨BlockOk_lines _ (by simp) h1, fun e _ => ?_⟩
    obtain ⟨s, hs⟩ := joinWith_cons_exists '\n' tag ls
    simp only [Item.render, Item.result, hs, List.append_assoc]
    exact parseBlock_other _ (h2 _) (h3 _)

theorem readObo_file (hb : List Char) (v : Nat × Nat × Nat) (hh : ReadsAs hb (.header v)) (items : List Item)
    (hitems : ∀ i ∈ items, i.Ok) (ending : List Char)
    (hend : ending = [] ∨ ending = ['\n'] ∨ ending = blankLine) :
    readObo (joinStr blankLine (hb :: items.map Item.render) ++ ending) =
      .ok { terms := itemsTerms items, version := v } := by
  have := readObo_blocks ((hb, .header v) :: items.map fun i => (i.render, i.result)) (by simp) (by
    intro p hp
    rcases List.mem_cons.1 hp with rfl | hp
    · exact hh
    · obtain ⟨i, hi, rfl⟩ := List.mem_map.1 hp
      exact i.readsAs (hitems i hi)) ending hend
  simpa [List.map_map, Function.comp_def, foldl_push_items, Obo.push] using this

/-! ### whole gene files -/

/-- a gene-term link as a gene file states it: gene id, symbol, term id; the term label (only in
phenotype_to_genes.txt) and the further columns are free text -/
structure GRow where
  g : Nat
  sym : List Char
  h : Nat
  label : List Char
  tail : List Char

def GRow.render (tr : Bool) (r : GRow) : List Char :=
  if tr then renderP2G r.g r.sym r.h r.label r.tail else renderG2P r.g r.sym r.h r.tail

structure GRow.Ok (r : GRow) : Prop where
  g : r.g < 4294967296
  h : r.h < 4294967296
  sym : NoSep r.sym
  label : NoSep r.label
  tail : IsTail '\t' r.tail ∧ '\n' ∉ r.tail ∧ '\r' ∉ r.tail

/-- the Builder calls a gene file stands for, in file order -/
def annotateGenes : List GRow → Onto → Res Onto
  | [], o => .ok o
  | r :: rs, o => (o.annotate .gene r.g r.sym r.h).bind (annotateGenes rs)

theorem GRow.lineOk (tr : Bool) (r : GRow) (h : r.Ok) : LineOk (r.render tr) := by
  cases tr
  · refine (lineOk_iff _).2 ⟨?_, by simp [GRow.render, renderG2P]⟩
    simp only [GRow.render, Bool.false_eq_true, if_false, renderG2P, noBreak_append, noBreak_tab]
    exact ⟨(decimal_noSep r.g).2, h.sym.2, (render_noSep r.h).2, h.tail.2⟩
  · refine (lineOk_iff _).2 ⟨?_, by simp [GRow.render, renderP2G]⟩
    simp only [GRow.render, if_true, renderP2G, noBreak_append, noBreak_tab]
    exact ⟨(render_noSep r.h).2, h.label.2, (decimal_noSep r.g).2, h.sym.2, h.tail.2⟩

theorem geneRows_render (tr : Bool) (rows : List GRow) (h : ∀ r ∈ rows, r.Ok) (o : Onto) :
    geneRows tr (rows.map (GRow.render tr)) o = annotateGenes rows o := by
  induction rows generalizing o with
  | nil => rfl
  | cons r rs ih =>
    obtain ⟨hr, hrs⟩ := List.forall_mem_cons.1 h
    have e : parseGeneRow tr (r.render tr) = .ok (r.g, r.sym, r.h) := by
      cases tr
      · simpa [parseGeneRow, GRow.render] using parseG2P_render r.g r.h r.sym r.tail hr.g hr.h hr.sym.1 hr.tail.1
      · simpa [parseGeneRow, GRow.render] using
          parseP2G_render r.g r.h r.sym r.label r.tail hr.g hr.h hr.sym.1 hr.label.1 hr.tail.1
    simp only [List.map_cons, geneRows, annotateGenes, e, Res.bind]
    congr 1
    funext o'
    exact ih hrs o'

theorem removeHeader_line (hdr rest : List Char) (hnl : '\n' ∉ hdr)
    (hh : startsWith ['#'] hdr = true ∨ startsWith hdrNcbi hdr = true ∨ startsWith hdrHpo hdr = true) :
    removeHeader (hdr ++ '\n' :: rest) = .ok rest := by
  unfold removeHeader
  rw [splitOnce_append '\n' hdr rest hnl]
  rcases hh with h | h | h <;> simp [h]

theorem geneFile_render (tr : Bool) (hdr : List Char) (rows : List GRow) (ending : List Char)
    (hnl : '\n' ∉ hdr)
    (hh : startsWith ['#'] hdr = true ∨ startsWith hdrNcbi hdr = true ∨ startsWith hdrHpo hdr = true)
    (h : ∀ r ∈ rows, r.Ok) (hend : RowsEnd rows ending) :
    removeHeader (hdr ++ '\n' :: (joinWith '\n' (rows.map (GRow.render tr)) ++ ending)) =
      .ok (joinWith '\n' (rows.map (GRow.render tr)) ++ ending) ∧
    ∀ o, geneRows tr (lines (joinWith '\n' (rows.map (GRow.render tr)) ++ ending)) o = annotateGenes rows o := by
  refine ⟨removeHeader_line hdr _ hnl hh, fun o => ?_⟩
  rw [lines_rendered _ rows ending (fun r hr => r.lineOk tr (h r hr)) hend]
  exact geneRows_render tr rows h o

/-! ### whole phenotype.hpoa -/

def dbText (orpha : Bool) : List Char := if orpha then pOrpha else pOmim
def dbKind (orpha : Bool) : Kind := if orpha then .orpha else .omim

/-- a line of phenotype.hpoa -/
inductive DRow where
  /-- an OMIM / ORPHA row with a qualifier other than `NOT` -/
  | link (orpha : Bool) (d : Nat) (name q : List Char) (h : Nat) (tail : List Char)
  /-- a `NOT` row: any id text, any term text -/
  | excluded (orpha : Bool) (id name hpo tail : List Char)
  /-- `#` comment, column header, row of another database, … -/
  | ignored (line : List Char)

def DRow.render : DRow → List Char
  | .link orpha d name q h tail => renderDiseaseRow (dbText orpha) (TermId.decimal d) name q (TermId.render h) tail
  | .excluded orpha id name hpo tail => renderDiseaseRow (dbText orpha) id name kNot hpo tail
  | .ignored line => line

def TailOk (tail : List Char) : Prop := IsTail '\t' tail ∧ '\n' ∉ tail ∧ '\r' ∉ tail

/-- In an excluded row `EndsNonWs hpo` and `'\t' ∉ hpo` are not what makes it skipped (`parse_disease_components`
returns at column 3): rows of any qualifier go through one lemma, `parseDiseaseRow_db`, whose `trim_diseaseRow`
step needs the fourth column to end in a non-blank character -/
def DRow.Ok : DRow → Prop
  | .link _ d name q h tail =>
    d < 4294967296 ∧ h < 4294967296 ∧ NoSep name ∧ NoSep q ∧ q ≠ kNot ∧ TailOk tail
  | .excluded _ id name hpo tail => NoSep id ∧ NoSep name ∧ NoSep hpo ∧ EndsNonWs hpo ∧ TailOk tail
  | .ignored line => startsWith pOmim line = false ∧ startsWith pOrpha line = false ∧ LineOk line

/-- the Builder calls phenotype.hpoa stands for, in file order -/
def annotateDiseases : List DRow → Onto → Res Onto
  | [], o => .ok o
  | .link orpha d name _ h _ :: rs, o => (o.annotate (dbKind orpha) d name h).bind (annotateDiseases rs)
  | .excluded _ _ _ _ _ :: rs, o => annotateDiseases rs o
  | .ignored _ :: rs, o => annotateDiseases rs o

/-- the database of a row is decided by its first characters: an `ORPHA` row is no `OMIM` row -/
theorem parseDiseaseRow_dbText (orpha : Bool) (rest : List Char) :
    parseDiseaseRow (dbText orpha ++ rest) =
      (parseDiseaseComponents (dbText orpha ++ rest)).bind fun r => .ok (r.map fun c => (dbKind orpha, c)) := by
  cases orpha <;> rfl

theorem parseDiseaseRow_db (orpha : Bool) (id name q hpo tail : List Char) (hend : EndsNonWs hpo)
    (ht : IsTail '\t' tail) (hid : '\t' ∉ id) (hname : '\t' ∉ name) (hq : '\t' ∉ q) (hhpo : '\t' ∉ hpo) :
    parseDiseaseRow (renderDiseaseRow (dbText orpha) id name q hpo tail) =
      if q = kNot then .ok none
      else match TermId.parse hpo with
        | none => .err .parseInt
        | some h => .ok (some (dbKind orpha, id, name, h)) := by
  have hdb : (∀ s, trimStart (dbText orpha ++ s) = dbText orpha ++ s) ∧ ':' ∉ dbText orpha ∧
      '\t' ∉ dbText orpha := by
    cases orpha <;> exact ⟨fun _ => rfl, by decide, by decide⟩
  have e := parseDiseaseComponents_render (dbText orpha) id name q hpo tail hdb.1 hend ht hdb.2.1 hdb.2.2
    hid hname hq hhpo
  rw [renderDiseaseRow, parseDiseaseRow_dbText, ← renderDiseaseRow, e]
  by_cases hn : q = kNot
  · simp only [hn, if_true, Res.bind, Option.map_none]
  · simp only [hn, if_false]
    cases TermId.parse hpo <;> rfl

theorem diseaseRows_link (orpha : Bool) (d h : Nat) (name q tail : List Char) (hd : d < 4294967296)
    (hh : h < 4294967296) (hname : '\t' ∉ name) (hq : '\t' ∉ q) (hnot : q ≠ kNot) (ht : IsTail '\t' tail)
    (ls : List (List Char)) (o : Onto) :
    diseaseRows (renderDiseaseRow (dbText orpha) (TermId.decimal d) name q (TermId.render h) tail :: ls) o =
      (o.annotate (dbKind orpha) d name h).bind (diseaseRows ls) := by
  have e := parseDiseaseRow_db orpha (TermId.decimal d) name q (TermId.render h) tail (EndsNonWs_render h)
    ht (decimal_noSep d).1 hname hq (render_noSep h).1
  simp only [diseaseRows, e, hnot, if_false, C20.C20_roundtrip h hh, Res.bind, TermId.parseU32_decimal d hd]

theorem diseaseRows_not (orpha : Bool) (id name hpo tail : List Char) (hid : '\t' ∉ id) (hname : '\t' ∉ name)
    (hhpo : '\t' ∉ hpo) (hend : EndsNonWs hpo) (ht : IsTail '\t' tail) (ls : List (List Char)) (o : Onto) :
    diseaseRows (renderDiseaseRow (dbText orpha) id name kNot hpo tail :: ls) o = diseaseRows ls o := by
  have e := parseDiseaseRow_db orpha id name kNot hpo tail hend ht hid hname (by decide) hhpo
  simp only [diseaseRows, e, if_true, Res.bind]

theorem diseaseRows_other (line : List Char) (h1 : startsWith pOmim line = false)
    (h2 : startsWith pOrpha line = false) (ls : List (List Char)) (o : Onto) :
    diseaseRows (line :: ls) o = diseaseRows ls o := by
  simp [diseaseRows, parseDiseaseRow, h1, h2, Res.bind]

theorem diseaseRows_render (rows : List DRow) (h : ∀ r ∈ rows, r.Ok) (o : Onto) :
    diseaseRows (rows.map DRow.render) o = annotateDiseases rows o := by
  induction rows generalizing o with
  | nil => rfl
  | cons r rs ih =>
    obtain ⟨hr, hrs⟩ := List.forall_mem_cons.1 h
    cases r with
    | link orpha d name q hh tail =>
      obtain ⟨h1, h2, h3, h4, h5, h6⟩ := hr
      rw [List.map_cons, DRow.render, diseaseRows_link orpha d hh name q tail h1 h2 h3.1 h4.1 h5 h6.1, annotateDiseases]
      congr 1
      funext o'
      exact ih hrs o'
    | excluded orpha id name hpo tail =>
      obtain ⟨h1, h2, h3, h4, h5⟩ := hr
      rw [List.map_cons, DRow.render, diseaseRows_not orpha id name hpo tail h1.1 h2.1 h3.1 h4 h5.1]
      exact ih hrs o
    | ignored line =>
      rw [List.map_cons, DRow.render, diseaseRows_other line hr.1 hr.2.1]
      exact ih hrs o

theorem dbText_noBreak (orpha : Bool) : NoBreak (dbText orpha) := by
  cases orpha <;> exact ⟨by decide, by decide⟩

theorem DRow.lineOk (r : DRow) (h : r.Ok) : LineOk r.render := by
  cases r with
  | link orpha d name q hh tail =>
    obtain ⟨_, _, h3, h4, _, h6⟩ := h
    exact lineOk_renderDiseaseRow _ _ _ _ _ _ (dbText_noBreak orpha) (decimal_noSep d).2 h3.2 h4.2
      (render_noSep hh).2 h6.2
  | excluded orpha id name hpo tail =>
    obtain ⟨h1, h2, h3, _, h5⟩ := h
    exact lineOk_renderDiseaseRow _ _ _ _ _ _ (dbText_noBreak orpha) h1.2 h2.2 ⟨by decide, by decide⟩ h3.2 h5.2
  | ignored line => exact h.2.2

theorem hpoaFile_render (rows : List DRow) (ending : List Char) (h : ∀ r ∈ rows, r.Ok)
    (hend : RowsEnd rows ending) (o : Onto) :
    diseaseRows (lines (joinWith '\n' (rows.map DRow.render) ++ ending)) o = annotateDiseases rows o := by
  rw [lines_rendered _ rows ending (fun r hr => r.lineOk (h r hr)) hend]
  exact diseaseRows_render rows h o

/-! ### the whole load -/

/-- The Builder-model program that three rendered files stand for: `add_term` per stanza,
`add_parent_unchecked` per `is_a`, `connect_all_terms`, `annotate_gene` per gene row,
`annotate_omim_disease` / `annotate_orpha_disease` per disease row that is not excluded,
`calculate_information_content`, `build_with_defaults` — all in file order. -/
def buildFromFacts (terms : List (Term × List Nat)) (v : Nat × Nat × Nat) (grows : List GRow)
    (drows : List DRow) : Res Onto :=
  match oboBuild { terms := terms, version := v } with
  | none => .panic
  | some o1 =>
    o1.connectAll.bind fun o2 =>
      (annotateGenes grows o2).bind fun o3 =>
        (annotateDiseases drows o3).bind fun o4 =>
          o4.calcIc.bind fun o5 => o5.buildWithDefaults

end Text
end Hpo
