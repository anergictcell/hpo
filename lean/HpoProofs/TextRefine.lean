import HpoProofs.Text
import HpoProofs.BuilderRun
/-!
The JAX text loaders as a Builder program. `buildFromFacts` (what `loadJax` does on three rendered files,
`HpoProofs/Text.lean`) is a `BuilderRun` (`HpoProofs/BuilderRun.lean`) over the stanzas and rows:
`oboBuild` is `runB` of one `BOp.term` per stanza and one `BOp.parent` per `is_a` line, plus the release
version, provided every `is_a` target is a `[Term]` stanza of the file (`IsaClosed`: then
`add_parent_unchecked` is `add_parent`); the two row loops are `annotateSeq` of one `AOp.annotate` per row,
which is `runA` when every annotated term is a stanza and fails with `DoesNotExist` otherwise. Permuting
stanzas and rows permutes the facts, which is what `builderRun_perm` (from `C16_*`) asks.
-/
namespace Hpo
namespace Text
open Hpo.Binary

/-! ### hp.obo: the stanzas as builder calls -/

/-- the term fact a `[Term]` stanza states (what `term_from_obo` puts into the new term) -/
def stanzaFact (s : Term × List Nat) : TermFact := ⟨s.1.name, s.1.id, s.1.obsolete, s.1.replacement⟩
def stanzaFacts (terms : List (Term × List Nat)) : List TermFact := terms.map stanzaFact

/-- the parent record of a stanza: (its id, the ids of its `is_a` lines) -/
def stanzaRec (s : Term × List Nat) : Nat × List Nat := (s.1.id, s.2)
/-- the is_a facts `(parent, child)` of a file, one per `is_a` line, in file order -/
def stanzaEdges (terms : List (Term × List Nat)) : List EdgeFact := edgesOf (terms.map stanzaRec)

/-- the term-level builder program of an obo file: `add_term` per stanza, then `add_parent` per
`is_a` line -/
def oboOps (terms : List (Term × List Nat)) : List BOp :=
  (stanzaFacts terms).map TermFact.op ++ (stanzaEdges terms).map edgeOp

/-- a parsed stanza carries id, name, obsolete flag and replacement and nothing else -/
def BareTerms (terms : List (Term × List Nat)) : Prop := ∀ s ∈ terms, s.1 = (stanzaFact s).term

/-- every `is_a` target is a `[Term]` stanza of the file -/
def IsaClosed (terms : List (Term × List Nat)) : Prop :=
  ∀ s ∈ terms, ∀ p ∈ s.2, ∃ s' ∈ terms, s'.1.id = p

theorem itemsTerms_bare (items : List Item) : BareTerms (itemsTerms items) := by
  intro s hs
  rw [itemsTerms_eq] at hs
  obtain ⟨i, _, hi⟩ := List.mem_filterMap.1 hs
  cases i with
  | stanza id name obs repl parents e1 e2 => cases hi; rfl
  | other tag ls => cases hi

theorem addOboTerms_eq (terms : List (Term × List Nat)) :
    addOboTerms terms = Onto.addTermsFold (terms.map (·.1)) := by
  induction terms with
  | nil => funext o; rfl
  | cons s r ih =>
    obtain ⟨t, ps⟩ := s
    funext o
    simp only [addOboTerms, List.map_cons, Onto.addTermsFold, ih]

theorem addParentsOfChild_eq (c : Nat) (ps : List Nat) : addParentsOfChild c ps = Onto.addParentsOf c ps := by
  induction ps with
  | nil => funext o; rfl
  | cons p ps ih =>
    funext o
    simp only [addParentsOfChild, Onto.addParentsOf, ih]

theorem addOboConnections_eq (terms : List (Term × List Nat)) :
    addOboConnections terms = Onto.addParentRecs (terms.map stanzaRec) := by
  induction terms with
  | nil => funext o; rfl
  | cons s r ih =>
    obtain ⟨t, ps⟩ := s
    funext o
    simp only [addOboConnections, List.map_cons, stanzaRec, Onto.addParentRecs, addParentsOfChild_eq, ih]

theorem mem_stanzaFacts (terms : List (Term × List Nat)) (j : Nat) :
    (∃ f ∈ stanzaFacts terms, f.id = j) ↔ ∃ s ∈ terms, s.1.id = j := by
  simp only [stanzaFacts, List.mem_map]
  constructor
  · rintro ⟨f, ⟨s, hs, rfl⟩, hj⟩; exact ⟨s, hs, hj⟩
  · rintro ⟨s, hs, hj⟩; exact ⟨stanzaFact s, ⟨s, hs, rfl⟩, hj⟩

/-- With every `is_a` target a stanza of the file, the builder half of `read_obo_file` is the term-level
program `oboOps` of the checked API (`new_term` + `add_parent`) run on the empty builder, plus the release
version. -/
theorem oboBuild_eq_runB (terms : List (Term × List Nat)) (v : Nat × Nat × Nat)
    (hb : BareTerms terms) (hisa : IsaClosed terms) :
    oboBuild { terms := terms, version := v } = (runB (oboOps terms) {}).map (setV v) := by
  -- the stanzas as term records and parent records of a loader
  have h := loadTerms_eq_runB (terms.map (·.1)) (terms.map stanzaRec) v
    (fun t ht => by obtain ⟨s, hs, rfl⟩ := List.mem_map.1 ht; exact hb s hs)
    (fun r hr => by
      obtain ⟨s, hs, rfl⟩ := List.mem_map.1 hr
      exact ⟨⟨s.1, List.mem_map_of_mem hs, rfl⟩, fun p hp => by
        obtain ⟨s', hs', e⟩ := hisa s hs p hp
        exact ⟨s'.1, List.mem_map_of_mem hs', e⟩⟩)
  have e : (terms.map (·.1)).map termFactOf = stanzaFacts terms := List.map_map ..
  rw [e, ← addOboTerms_eq, ← addOboConnections_eq] at h
  exact h

/-! ### gene / disease rows as annotation calls -/

/-- the `annotate_gene` call of a gene row -/
def GRow.op (r : GRow) : AOp := .annotate .gene r.g r.sym r.h
def geneOps (rows : List GRow) : List AOp := rows.map GRow.op

/-- the `annotate_omim_disease` / `annotate_orpha_disease` call of a phenotype.hpoa line, if any -/
def DRow.op? : DRow → Option AOp
  | .link orpha d name _ h _ => some (.annotate (dbKind orpha) d name h)
  | .excluded _ _ _ _ _ => none
  | .ignored _ => none
def diseaseOps (rows : List DRow) : List AOp := rows.filterMap DRow.op?

/-- the annotation-phase builder program of the two row files -/
def fileOps (grows : List GRow) (drows : List DRow) : List AOp := geneOps grows ++ diseaseOps drows

theorem annotateGenes_eq (rows : List GRow) : annotateGenes rows = annotateSeq (geneOps rows) := by
  induction rows with
  | nil => funext o; rfl
  | cons r rs ih =>
    funext o
    rw [annotateGenes, ih]
    rfl

theorem annotateDiseases_eq (rows : List DRow) : annotateDiseases rows = annotateSeq (diseaseOps rows) := by
  induction rows with
  | nil => funext o; rfl
  | cons r rs ih =>
    funext o
    cases r <;> rw [annotateDiseases, ih] <;> rfl

/-! ### the three files -/

def IsStanza (terms : List (Term × List Nat)) (j : Nat) : Prop := ∃ s ∈ terms, s.1.id = j

/-- an acyclic is_a relation: some rank strictly decreases from every stanza to each of its `is_a`
targets -/
def AcyclicFacts (terms : List (Term × List Nat)) : Prop :=
  ∃ rank : Nat → Nat, ∀ s ∈ terms, ∀ p ∈ s.2, rank p < rank s.1.id

/-- Well-formed content of the three files: what makes the load succeed. -/
structure WFfacts (terms : List (Term × List Nat)) (grows : List GRow) (drows : List DRow) : Prop where
  /-- term ids are below 10^7 (beyond that `Arena::insert` indexes out of bounds) -/
  small : ∀ s ∈ terms, s.1.id < maxId
  /-- every `is_a` target is a `[Term]` stanza of the file -/
  isa : IsaClosed terms
  /-- no is_a cycle -/
  acyclic : AcyclicFacts terms
  /-- every term annotated in the gene file is a stanza -/
  geneTerms : ∀ r ∈ grows, IsStanza terms r.h
  /-- every term annotated by an OMIM / ORPHA row that is not `NOT` is a stanza -/
  diseaseTerms : ∀ orpha d name q h tail, DRow.link orpha d name q h tail ∈ drows → IsStanza terms h
  /-- at most 65 535 distinct genes, OMIM diseases, ORPHA diseases (`calculate_information_content`) -/
  fit : CountsFit (fileOps grows drows)
  /-- `HP:0000001` and `HP:0000118` are stanzas (`build_with_defaults`) -/
  root : IsStanza terms 1
  phenotype : IsStanza terms Onto.phenotypeId

theorem mem_stanzaEdges (terms : List (Term × List Nat)) (p c : Nat) :
    (p, c) ∈ stanzaEdges terms ↔ ∃ s ∈ terms, s.1.id = c ∧ p ∈ s.2 := by
  simp only [stanzaEdges, mem_edgesOf, List.mem_map, stanzaRec]
  constructor
  · rintro ⟨ps, ⟨s, hs, he⟩, hp⟩
    obtain ⟨h1, h2⟩ := Prod.mk.inj he
    exact ⟨s, hs, h1, h2 ▸ hp⟩
  · rintro ⟨s, hs, rfl, hp⟩
    exact ⟨s.2, ⟨s, hs, rfl⟩, hp⟩

theorem acyclicEdges_of_facts (terms : List (Term × List Nat)) (h : AcyclicFacts terms) :
    AcyclicEdges (stanzaEdges terms) := by
  obtain ⟨rank, hr⟩ := h
  refine ⟨rank, ?_⟩
  rintro ⟨p, c⟩ he
  obtain ⟨s, hs, rfl, hp⟩ := (mem_stanzaEdges terms p c).1 he
  exact hr s hs p hp

theorem mem_diseaseOps (drows : List DRow) (op : AOp) :
    op ∈ diseaseOps drows ↔ ∃ orpha d name q h tail, DRow.link orpha d name q h tail ∈ drows ∧
      op = .annotate (dbKind orpha) d name h := by
  simp only [diseaseOps, List.mem_filterMap]
  constructor
  · rintro ⟨row, hrow, he⟩
    cases row with
    | link orpha d name q h tail =>
      simp only [DRow.op?, Option.some.injEq] at he
      exact ⟨orpha, d, name, q, h, tail, hrow, he.symm⟩
    | excluded orpha id name hpo tail => simp [DRow.op?] at he
    | ignored line => simp [DRow.op?] at he
  · rintro ⟨orpha, d, name, q, h, tail, hrow, rfl⟩
    exact ⟨_, hrow, rfl⟩

theorem forall_mem_fileOps {P : AOp → Prop} (grows : List GRow) (drows : List DRow) :
    (∀ op ∈ fileOps grows drows, P op) ↔ (∀ r ∈ grows, P r.op) ∧
      ∀ orpha d name q h tail, DRow.link orpha d name q h tail ∈ drows → P (.annotate (dbKind orpha) d name h) := by
  simp only [fileOps, geneOps, List.forall_mem_append, List.forall_mem_map, mem_diseaseOps]
  refine and_congr_right fun _ => ⟨fun hd orpha d name q h tail hr => hd _ ⟨orpha, d, name, q, h, tail, hr, rfl⟩, ?_⟩
  rintro hd op ⟨orpha, d, name, q, h, tail, hr, rfl⟩
  exact hd orpha d name q h tail hr

theorem WFfacts.known {terms : List (Term × List Nat)} {grows : List GRow} {drows : List DRow}
    (W : WFfacts terms grows drows) : ∀ op ∈ fileOps grows drows, op.Known (IsStanza terms) :=
  (forall_mem_fileOps grows drows).2 ⟨W.geneTerms, W.diseaseTerms⟩

theorem known_stanzaFacts (terms : List (Term × List Nat)) (op : AOp) :
    op.Known (fun j => ∃ f ∈ stanzaFacts terms, f.id = j) ↔ op.Known (IsStanza terms) := by
  cases op with
  | addRec k n i => exact Iff.rfl
  | annotate k rid n t => exact mem_stanzaFacts terms t

/-- "one name per gene / disease id" stated on the rows -/
theorem namesFunctional_fileOps (nameOf : Kind → Nat → List Char) (grows : List GRow) (drows : List DRow)
    (hg : ∀ r ∈ grows, r.sym = nameOf .gene r.g)
    (hd : ∀ orpha d name q h tail, DRow.link orpha d name q h tail ∈ drows → name = nameOf (dbKind orpha) d) :
    NamesFunctional nameOf (fileOps grows drows) := by
  refine (forall_mem_fileOps grows drows).2 ⟨fun row hr k r n hnm => ?_, fun orpha d name q h tail hr k r n hnm => ?_⟩
  · obtain ⟨rfl, rfl, rfl⟩ := nameFor_annotate hnm
    exact hg row hr
  · obtain ⟨rfl, rfl, rfl⟩ := nameFor_annotate hnm
    exact hd orpha d name q h tail hr

/-! permutations of stanzas and rows are permutations of the facts -/

theorem itemsTerms_perm {i1 i2 : List Item} (h : i1.Perm i2) : (itemsTerms i1).Perm (itemsTerms i2) := by
  rw [itemsTerms_eq, itemsTerms_eq]
  exact h.filterMap _

theorem stanzaFacts_perm {t1 t2 : List (Term × List Nat)} (h : t1.Perm t2) :
    (stanzaFacts t1).Perm (stanzaFacts t2) := h.map _

theorem stanzaEdges_perm {t1 t2 : List (Term × List Nat)} (h : t1.Perm t2) :
    (stanzaEdges t1).Perm (stanzaEdges t2) := edgesOf_perm (h.map _)

theorem fileOps_perm {g1 g2 : List GRow} {d1 d2 : List DRow} (hg : g1.Perm g2) (hd : d1.Perm d2) :
    (fileOps g1 d1).Perm (fileOps g2 d2) :=
  (hg.map _).append (hd.filterMap _)

theorem WFfacts.perm {t1 t2 : List (Term × List Nat)} {g1 g2 : List GRow} {d1 d2 : List DRow}
    (W : WFfacts t1 g1 d1) (ht : t1.Perm t2) (hg : g1.Perm g2) (hd : d1.Perm d2) : WFfacts t2 g2 d2 := by
  have hst : ∀ j, IsStanza t1 j → IsStanza t2 j := by
    rintro j ⟨s, hs, hj⟩; exact ⟨s, ht.mem_iff.1 hs, hj⟩
  refine ⟨fun s hs => W.small s (ht.mem_iff.2 hs), ?_, ?_, fun r hr => hst _ (W.geneTerms r (hg.mem_iff.2 hr)),
    fun orpha d name q h tail hr => hst _ (W.diseaseTerms orpha d name q h tail (hd.mem_iff.2 hr)), ?_,
    hst _ W.root, hst _ W.phenotype⟩
  · intro s hs p hp
    obtain ⟨s', hs', e⟩ := W.isa s (ht.mem_iff.2 hs) p hp
    exact ⟨s', ht.mem_iff.1 hs', e⟩
  · obtain ⟨rank, hr⟩ := W.acyclic
    exact ⟨rank, fun s hs => hr s (ht.mem_iff.2 hs)⟩
  · exact W.fit.of_mem fun op hop => (fileOps_perm hg hd).mem_iff.2 hop

/-- the checked Builder API succeeds on well-formed facts handed over in any order -/
theorem WFfacts.builderRun_exists {terms : List (Term × List Nat)} {grows : List GRow} {drows : List DRow}
    (W : WFfacts terms grows drows) {fs : List TermFact} {es : List EdgeFact} {aops : List AOp}
    (hpf : (stanzaFacts terms).Perm fs) (hpe : (stanzaEdges terms).Perm es)
    (hpa : (fileOps grows drows).Perm aops) : ∃ a oc r d, BuilderRun fs es aops a oc r d := by
  have hst : ∀ j, IsStanza terms j → ∃ f ∈ fs, f.id = j := fun j h =>
    let ⟨f, hf, e⟩ := (mem_stanzaFacts terms j).2 h
    ⟨f, hpf.mem_iff.1 hf, e⟩
  refine Text.builderRun_exists fs es aops ?_
    ((acyclicEdges_of_facts terms W.acyclic).of_mem fun e he => hpe.mem_iff.2 he)
    (W.fit.of_mem fun op hop => hpa.mem_iff.2 hop) (hst _ W.root) (hst _ W.phenotype)
  intro f hf
  obtain ⟨s, hs, rfl⟩ := List.mem_map.1 (hpf.mem_iff.2 hf)
  exact W.small s hs

/-- the program `buildFromFacts` with the row loops written as one call history -/
theorem buildFromFacts_eq (terms : List (Term × List Nat)) (v : Nat × Nat × Nat) (grows : List GRow)
    (drows : List DRow) :
    buildFromFacts terms v grows drows =
      match oboBuild { terms := terms, version := v } with
      | none => .panic
      | some o1 =>
        o1.connectAll.bind fun o2 =>
          (annotateSeq (fileOps grows drows) o2).bind fun o4 =>
            o4.calcIc.bind fun o5 => o5.buildWithDefaults := by
  simp only [buildFromFacts, fileOps, annotateSeq_append, Res.bind_assoc, annotateGenes_eq, annotateDiseases_eq]
  rfl

/-- On well-formed facts `buildFromFacts` succeeds and returns the ontology `d` of the checked-API builder
program over the same facts in file order (`BuilderRun`: `runB` with `add_parent`, `connect_all_terms`,
`runA`, `calcIc`, `build_with_defaults`) with the release version of the header. -/
theorem buildFromFacts_ok (terms : List (Term × List Nat)) (v : Nat × Nat × Nat) (grows : List GRow)
    (drows : List DRow) (hb : BareTerms terms) (W : WFfacts terms grows drows) :
    ∃ a oc r d, BuilderRun (stanzaFacts terms) (stanzaEdges terms) (fileOps grows drows) a oc r d ∧
      buildFromFacts terms v grows drows = .ok (setV v d) := by
  obtain ⟨a, oc, r, d, R⟩ := W.builderRun_exists (.refl _) (.refl _) (.refl _)
  refine ⟨a, oc, r, d, R, ?_⟩
  have hrun : runB (oboOps terms) {} = some a := R.run
  rw [buildFromFacts_eq, oboBuild_eq_runB terms v hb W.isa, hrun]
  exact R.load_tail v fun op hop => (known_stanzaFacts terms op).2 (W.known op hop)

/-- the two row loops on the connected ontology of a term-level run, when every annotated term is a
term fact: no call fails and the result is the call history `runA` -/
theorem rows_eq_runA {fs : List TermFact} {es : List EdgeFact} {a oc : Onto} (T : TermRun fs es a oc)
    (grows : List GRow) (drows : List DRow)
    (hknown : ∀ op ∈ fileOps grows drows, op.Known (fun j => ∃ f ∈ fs, f.id = j)) :
    (annotateGenes grows oc).bind (annotateDiseases drows) = .ok (runA (fileOps grows drows) oc) := by
  rw [← T.annotateSeq_ok _ hknown, fileOps, annotateSeq_append, annotateGenes_eq, annotateDiseases_eq]

/-- When a gene row or an OMIM / ORPHA row that is not `NOT` names a term that is not a stanza of the obo
file (everything else being well formed up to that point), the load fails with `DoesNotExist`. -/
theorem buildFromFacts_unknown_term (terms : List (Term × List Nat)) (v : Nat × Nat × Nat)
    (grows : List GRow) (drows : List DRow) (hb : BareTerms terms)
    (hsmall : ∀ s ∈ terms, s.1.id < maxId) (hisa : IsaClosed terms) (hac : AcyclicFacts terms)
    (hbad : ∃ op ∈ fileOps grows drows, ¬ op.Known (IsStanza terms)) :
    buildFromFacts terms v grows drows = .err .doesNotExist := by
  obtain ⟨a, oc, T⟩ := termRun_exists (stanzaFacts terms) (stanzaEdges terms)
    (by intro f hf; obtain ⟨s, hs, rfl⟩ := List.mem_map.1 hf; exact hsmall s hs)
    (acyclicEdges_of_facts terms hac)
  obtain ⟨op, hop, hn⟩ := hbad
  have hseq := T.annotateSeq_fail (fileOps grows drows) ⟨op, hop, fun h => hn ((known_stanzaFacts terms op).1 h)⟩
  have hrun : runB (oboOps terms) {} = some a := T.run
  rw [buildFromFacts_eq, oboBuild_eq_runB terms v hb hisa, hrun]
  simp only [Option.map_some, connectAll_setV, T.connect, mapR_ok, Res.bind, annotateSeq_setV, hseq,
    mapR_err]

/-! ### a rendering of the three files -/

/-- One way of writing down the three files: header lines around the `data-version` line, the release
date digits, the blocks of hp.obo after the header (`[Term]` stanzas with their extra tags and `is_a`
labels, other stanzas) in file order, the header line and the rows of the gene file, the lines of
phenotype.hpoa, and how each file ends. -/
structure Rendering where
  pre : List (List Char)
  post : List (List Char)
  y1 : Nat
  y2 : Nat
  y3 : Nat
  y4 : Nat
  m1 : Nat
  m2 : Nat
  d1 : Nat
  d2 : Nat
  items : List Item
  oboEnd : List Char
  hdr : List Char
  grows : List GRow
  geneEnd : List Char
  drows : List DRow
  hpoaEnd : List Char

namespace Rendering

/-- the release version the header states -/
def version (R : Rendering) : Nat × Nat × Nat :=
  (1000 * R.y1 + 100 * R.y2 + 10 * R.y3 + R.y4, 10 * R.m1 + R.m2, 10 * R.d1 + R.d2)

/-- content of hp.obo -/
def obo (R : Rendering) : List Char :=
  joinStr blankLine
    (joinWith '\n' (headerLines R.pre R.post R.y1 R.y2 R.y3 R.y4 R.m1 R.m2 R.d1 R.d2) :: R.items.map Item.render)
    ++ R.oboEnd

/-- content of genes_to_phenotype.txt (`tr = false`) / phenotype_to_genes.txt (`tr = true`) -/
def gene (R : Rendering) (tr : Bool) : List Char :=
  R.hdr ++ '\n' :: (joinWith '\n' (R.grows.map (GRow.render tr)) ++ R.geneEnd)

/-- content of phenotype.hpoa -/
def hpoa (R : Rendering) : List Char := joinWith '\n' (R.drows.map DRow.render) ++ R.hpoaEnd

/-- the `[Term]` stanzas of the file as the loader reads them, in file order -/
def terms (R : Rendering) : List (Term × List Nat) := itemsTerms R.items

/-- the lexical side conditions of `C09_file_in_order`: digits are digits, free text contains no
separator of its format, ids fit `u32`, the files end in one of the ways the generator emits -/
structure Ok (R : Rendering) : Prop where
  y1 : R.y1 < 10
  y2 : R.y2 < 10
  y3 : R.y3 < 10
  y4 : R.y4 < 10
  m1 : R.m1 < 10
  m2 : R.m2 < 10
  d1 : R.d1 < 10
  d2 : R.d2 < 10
  pre : ∀ l ∈ R.pre, stripPrefix versionPrefix l = none
  header : ∀ l ∈ R.pre ++ R.post, LineOk l
  items : ∀ i ∈ R.items, i.Ok
  oboEnd : R.oboEnd = [] ∨ R.oboEnd = ['\n'] ∨ R.oboEnd = blankLine
  hdrLine : '\n' ∉ R.hdr
  hdr : startsWith ['#'] R.hdr = true ∨ startsWith hdrNcbi R.hdr = true ∨ startsWith hdrHpo R.hdr = true
  grows : ∀ r ∈ R.grows, r.Ok
  geneEnd : RowsEnd R.grows R.geneEnd
  drows : ∀ r ∈ R.drows, r.Ok
  hpoaEnd : RowsEnd R.drows R.hpoaEnd

end Rendering

/-- loading the three files of a rendering is the Builder-model program over its facts in file order -/
theorem loadJax_rendering (tr : Bool) (R : Rendering) (h : R.Ok) :
    loadJax tr R.obo (R.gene tr) R.hpoa = buildFromFacts R.terms R.version R.grows R.drows := by
  obtain ⟨g1, g2⟩ := geneFile_render tr R.hdr R.grows R.geneEnd h.hdrLine h.hdr h.grows h.geneEnd
  unfold loadJax buildFromFacts Rendering.obo
  rw [readObo_file _ _ (headerLines_readsAs R.pre R.post R.y1 R.y2 R.y3 R.y4 R.m1 R.m2 R.d1 R.d2 h.y1 h.y2 h.y3
    h.y4 h.m1 h.m2 h.d1 h.d2 h.pre h.header) R.items h.items R.oboEnd h.oboEnd]
  simp only [Res.bind_ok, Rendering.gene, Rendering.hpoa, g1, g2, hpoaFile_render R.drows R.hpoaEnd h.drows h.hpoaEnd]
  rfl

end Text
end Hpo
