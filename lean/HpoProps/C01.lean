import HpoProofs.Closure
import HpoProofs.BuilderInv
import HpoProofs.Acyclic
import HpoModel.Read
/-!
# C01 — ancestor sets are the exact transitive closure of the is_a relation

After `connect_all_terms` the cached `all_parents` of every term is exactly the transitive closure of its direct
parents (none missing, none unrelated, never the term itself), `children` is the inverse of `parents`, and
`child_of` / `parent_of` are membership in that closure.
Model: the Builder of `HpoModel/Builder.lean` (`Onto.addTerm`, `Onto.addParent`, `Onto.connectAll`) run over
histories `runB` (`HpoProofs/BuilderInv.lean`) of `new_term` / `add_parent` calls — failing calls included, any
order, any ids — followed by `connect_all_terms`; `Term.childOf` / `Term.parentOf` from `HpoModel/Read.lean`.
There is no bound on the number of terms, on depth or on ids.

Hypotheses: `runB ops {} = some o` (`none` only where `new_term` panics, an id ≥ 10^7), `o.connectAll = .ok o'`
(it always succeeds: `C01_connect_total`), and
`isA o c p` : `p` is a direct parent of `c` in builder state `o`;
`Acyclic o`  : a rank function strictly decreasing along is_a, bounded by `#terms + 2`
               (what bounds the recursion depth; see DESIGN.md 2.5); on builder states equivalent to "no term is
               its own ancestor" (`C01_acyclic_iff_irreflexive`).

Not here: the other construction paths are not treated on their own, each is shown to BE such a history —
binary data by `C08_file_is_builder_run` (the one step that differs from the checked API is
`C01_unchecked_eq_checked` below), the text loaders by `C09_file_is_builder_run`, `sub_ontology` by
`C14_is_builder_run` (with the conclusions of C01–C03 restated for its result: `C14_again`).

Besides the property theorems, for other modules: `transGen_rank`, `Connected` / `connected_of_run` (what every
connected history satisfies, in the form C02, C15, C16 and the loaders take it) and `acyclic_of_terms` (`Acyclic` checked
term by term, for concrete ontologies).
-/
namespace Hpo.C01
open Relation Group

/-- the is_a relation of a builder state: `p` is a direct parent of `c` -/
def isA (o : Onto) (c p : Nat) : Prop := p ∈ parentsOf o.terms c

/-- acyclicity, as a rank function that strictly decreases from child to parent and is bounded by
the number of terms (+2). The bound is the fuel the model gives its recursions over the DAG (`Onto.connectAll`,
`Onto.linkFuel`, `Onto.fuel`). They spend one unit per level (the `fuel + 1` patterns of `createCache`, `link`),
so a call on a term of rank `ρ` returns when `ρ < fuel` (`cache_post`, `link_post`); the rank of a finite acyclic
relation, the number of ids a term reaches, is at most `#terms` (`rank_of_irreflexive`). So `#terms + 1` would
do; the model has one to spare. -/
def Acyclic (o : Onto) : Prop :=
  ∃ rank : Nat → Nat, (∀ c p, p ∈ parentsOf o.terms c → rank p < rank c) ∧
    ∀ j, rank j < o.terms.length + 2

/-- how `Acyclic` is used: an ancestor has smaller rank, so no term is its own ancestor and every walk up the
DAG ends within the fuel -/
theorem transGen_rank {o : Onto} {rank : Nat → Nat}
    (hr : ∀ c p, p ∈ parentsOf o.terms c → rank p < rank c) {a b : Nat}
    (h : TransGen (isA o) a b) : rank b < rank a := by
  induction h with
  | single h => exact hr _ _ h
  | tail _ h ih => exact Nat.lt_trans (hr _ _ h) ih

/-- the textbook formulation of acyclicity: no term is its own ancestor -/
def Irreflexive (o : Onto) : Prop := ∀ j, ¬ TransGen (isA o) j j

/-- On builder states the bounded-rank hypothesis `Acyclic` is *equivalent* to the textbook one:
a finite irreflexive is_a relation has a rank function bounded by the number of terms
(the number of terms reached). So every theorem below holds for
all finite acyclic is_a graphs in the usual sense. -/
theorem C01_acyclic_iff_irreflexive (o : Onto) (h : PreInv o.terms) : Acyclic o ↔ Irreflexive o := by
  constructor
  · rintro ⟨rank, hr, _⟩ j hj
    exact Nat.lt_irrefl _ (transGen_rank hr hj)
  · intro hirr
    obtain ⟨rank, h1, h2⟩ := rank_of_irreflexive (parentsOf o.terms) o.ids
      (fun c p hp => (getT_isSome_iff o.terms p).1 (h.closedP c p hp)) hirr
    refine ⟨rank, h1, fun j => ?_⟩
    have := h2 j
    rw [Onto.ids, List.length_map] at this
    exact Nat.lt_succ_of_lt this

/-- Main theorem. On every well-formed acyclic builder state `connect_all_terms` terminates
without panic, changes nothing but the `all_parents` fields, and leaves in every term exactly the
transitive closure of its direct parents, as a strictly ascending group. -/
theorem C01_connect (o : Onto) (h : PreInv o.terms) (hac : Acyclic o) :
    ∃ o', o.connectAll = .ok o' ∧ o' = { o with terms := o'.terms } ∧ Upd o.terms o'.terms ∧
      (∀ j, (getT o'.terms j).isSome → ∀ a, a ∈ allOf o'.terms j ↔ TransGen (isA o) j a) ∧
      (∀ j, Sorted (allOf o'.terms j)) := by
  obtain ⟨rank, hrank, hbound⟩ := hac
  have hG : Good (parentsOf o.terms) o.terms := fun j => by
    rw [h.fresh j]; exact ⟨Or.inl rfl, sorted_nil⟩
  obtain ⟨o', hrun, s, hG', hC⟩ :=
    connectFold_post (parentsOf o.terms) rank hrank h.sortedP (o.terms.length + 2) hbound
      o.ids o ⟨fun _ => rfl, h.closedP, h.small⟩ hG fun i hi => (getT_isSome_iff o.terms i).2 hi
  refine ⟨o', hrun, s.rest, s.upd, fun j hj => ?_, fun j => (hG' j).2⟩
  rw [s.upd.isSome] at hj
  exact hC j ((getT_isSome_iff o.terms j).1 hj)

/-- `oc` is the state after `connect_all_terms` on the term-level state `o` of a call history
(`connected_of_run`): what every later property starts from. `connect_all_terms` wrote `all_parents` fields and
nothing else (`rest`, `upd`), so `parents` and `children` are those of `o` and `pre` still speaks of them
(`pre.inverse`: `C01_children_inverse`; `pre.closedP`, `pre.closedC` and `closure`: `C01_closed`); every ancestor
group is the closure of the is_a relation of `o` (`closure`: `C01_ancestors_exact`, `C01_child_of_iff`; with
`acyclic`: `C01_not_self`), strictly ascending (`sorted`: `C01_sorted`); nothing but `terms` has been written since
the empty builder (`init`), so there is no record yet (`Connected.recs_nil`). -/
structure Connected (o oc : Onto) : Prop where
  pre : PreInv o.terms
  acyclic : Acyclic o
  init : o = { terms := o.terms }
  rest : oc = { o with terms := oc.terms }
  upd : Upd o.terms oc.terms
  closure : ∀ j a, a ∈ allOf oc.terms j ↔ TransGen (isA o) j a
  sorted : ∀ j, Sorted (allOf oc.terms j)

theorem connected_of_run {ops : List BOp} {o o' : Onto} (hrun : runB ops {} = some o)
    (hac : Acyclic o) (hc : o.connectAll = .ok o') : Connected o o' := by
  obtain ⟨hpre, h0⟩ := preInv_run ops {} o preInv_nil hrun
  obtain ⟨o'', hc', hrest, hupd, hex, hs⟩ := C01_connect o hpre hac
  rw [hc] at hc'; cases hc'
  refine ⟨hpre, hac, h0, hrest, hupd, fun j a => ?_, hs⟩
  -- an id that does not resolve has neither ancestors nor parents
  by_cases hj : (getT o'.terms j).isSome
  · exact hex j hj a
  · refine ⟨fun ha => absurd (isSome_of_mem_getD ha) hj, fun ht => ?_⟩
    obtain ⟨c, hc', -⟩ := TransGen.head'_iff.1 ht
    exact absurd (hupd.isSome j ▸ isSome_of_mem_getD hc') hj

theorem Connected.nodup {o oc : Onto} (C : Connected o oc) : (oc.terms.map (·.id)).Nodup :=
  C.upd.1 ▸ C.pre.nodup

theorem Connected.recs_nil {o oc : Onto} (C : Connected o oc) (k : Kind) : oc.recs k = [] :=
  (recs_of_rest C.rest k).trans (by rw [C.init]; cases k <;> rfl)

theorem Connected.annOf_nil {o oc : Onto} (C : Connected o oc) (k : Kind) (j : Nat) : annOf k oc.terms j = [] := by
  rw [annOf, C.upd.field [] (fun t v => by cases k <;> rfl) j]; exact C.pre.freshAnn k j

/-- a term of the connected ontology read through its id: the form in which `closure` and `sorted` speak -/
theorem Connected.allOf_mem {o oc : Onto} (C : Connected o oc) {t : Term} (ht : t ∈ oc.terms) :
    allOf oc.terms t.id = t.allParents :=
  allOf_eq (getT_of_mem_nodup C.nodup ht)

/-- Ancestors of every term of the connected ontology, for every call history:
no ancestor missing, no unrelated term included. -/
theorem C01_ancestors_exact (ops : List BOp) (o o' : Onto) (hrun : runB ops {} = some o)
    (hac : Acyclic o) (hc : o.connectAll = .ok o') :
    ∀ t ∈ o'.terms, ∀ a, a ∈ t.allParents ↔ TransGen (isA o) t.id a := by
  have C := connected_of_run hrun hac hc
  intro t ht a
  rw [← C.allOf_mem ht]
  exact C.closure t.id a

/-- …and `connect_all_terms` always succeeds on such a history (no panic, no divergence) -/
theorem C01_connect_total (ops : List BOp) (o : Onto) (hrun : runB ops {} = some o)
    (hac : Acyclic o) : ∃ o', o.connectAll = .ok o' := by
  obtain ⟨hpre, _⟩ := preInv_run ops {} o preInv_nil hrun
  obtain ⟨o', hc, _⟩ := C01_connect o hpre hac
  exact ⟨o', hc⟩

/-- never the term itself -/
theorem C01_not_self (ops : List BOp) (o o' : Onto) (hrun : runB ops {} = some o)
    (hac : Acyclic o) (hc : o.connectAll = .ok o') :
    ∀ t ∈ o'.terms, t.id ∉ t.allParents := by
  intro t ht hmem
  have := (C01_ancestors_exact ops o o' hrun hac hc t ht t.id).1 hmem
  obtain ⟨rank, hrank, _⟩ := hac
  exact Nat.lt_irrefl _ (transGen_rank hrank this)

/-- ancestor groups stay strictly ascending (sorted, duplicate free) -/
theorem C01_sorted (ops : List BOp) (o o' : Onto) (hrun : runB ops {} = some o)
    (hac : Acyclic o) (hc : o.connectAll = .ok o') :
    ∀ t ∈ o'.terms, Sorted t.allParents := by
  have C := connected_of_run hrun hac hc
  intro t ht
  rw [← C.allOf_mem ht]
  exact C.sorted t.id

/-- the child relation is the exact inverse of the parent relation — an invariant of every call
history (failing `add_parent` calls change nothing), preserved by `connect_all_terms` -/
theorem C01_children_inverse (ops : List BOp) (o o' : Onto) (hrun : runB ops {} = some o)
    (hac : Acyclic o) (hc : o.connectAll = .ok o') :
    ∀ p c, c ∈ childrenOf o'.terms p ↔ p ∈ parentsOf o'.terms c := by
  have C := connected_of_run hrun hac hc
  intro p c
  rw [C.upd.children_eq, C.upd.parents_eq]
  exact C.pre.inverse p c

/-- `child_of` / `parent_of` answer exactly membership in the closure -/
theorem C01_child_of_iff (ops : List BOp) (o o' : Onto) (hrun : runB ops {} = some o)
    (hac : Acyclic o) (hc : o.connectAll = .ok o') :
    ∀ a ∈ o'.terms, ∀ b : Term, (a.childOf b = true ↔ TransGen (isA o) a.id b.id) ∧
      (b.parentOf a = true ↔ TransGen (isA o) a.id b.id) := by
  intro a ha b
  have := C01_ancestors_exact ops o o' hrun hac hc a ha b.id
  simp only [Term.parentOf, Term.childOf, contains_iff]
  exact ⟨this, this⟩

/-- every id in `parents`, `children` and `all_parents` of the connected ontology resolves -/
theorem C01_closed (ops : List BOp) (o o' : Onto) (hrun : runB ops {} = some o)
    (hac : Acyclic o) (hc : o.connectAll = .ok o') :
    ∀ t ∈ o'.terms, ∀ x, (x ∈ t.parents ∨ x ∈ t.children ∨ x ∈ t.allParents) →
      (getT o'.terms x).isSome := by
  have C := connected_of_run hrun hac hc
  intro t ht x hx
  have hg := getT_of_mem_nodup C.nodup ht
  rw [C.upd.isSome]
  rcases hx with hx | hx | hx
  · rw [← parentsOf_eq hg, C.upd.parents_eq] at hx
    exact C.pre.closedP _ _ hx
  · rw [← childrenOf_eq hg, C.upd.children_eq] at hx
    exact C.pre.closedC _ _ hx
  · rw [← C.allOf_mem ht, C.closure t.id] at hx
    -- the last step of the chain is a parent link, whose target resolves
    obtain ⟨c, -, h⟩ := TransGen.tail'_iff.1 hx
    exact C.pre.closedP c x h

/-! ### the binary path ends in the same `connect_all_terms`

Binary data (v1–v3) goes through `add_term` + `add_parent_unchecked`; on records whose ids all
resolve this is the same state transition as `add_parent`, so the theorems above apply. The text loaders and
`sub_ontology` make the same call; that their whole runs are Builder histories is `C08_file_is_builder_run`,
`C09_file_is_builder_run`, `C14_is_builder_run`. -/

theorem C01_unchecked_eq_checked (o : Onto) (p c : Nat) (hs : PreInv o.terms)
    (hp : (getT o.terms p).isSome) (hc : (getT o.terms c).isSome) :
    (o.addParentUnchecked p c).map Res.ok = some (o.addParent p c) := by
  obtain ⟨tp, htp⟩ := Option.isSome_iff_exists.1 hp
  obtain ⟨tc, htc⟩ := Option.isSome_iff_exists.1 hc
  have hps : p < maxId := hs.small p hp
  have hcs : c < maxId := hs.small c hc
  have htc' := getT_modT o.terms p c (·.addChild c) (fun _ => rfl)
  rw [htc] at htc'
  rw [Onto.addParentUnchecked, modUnchecked_present _ htp hps, Option.bind_some,
    modUnchecked_present (o := { o with terms := modT o.terms p (·.addChild c) }) _ htc' hcs,
    Onto.addParent, get_eq_some.2 ⟨hcs, htc⟩, get_eq_some.2 ⟨hps, htp⟩]
  rfl

/-! ### non-vacuity: a diamond with ids in "wrong" numeric order, built with a failing call -/

def diamondOps : List BOp :=
  [.term [] 9, .term [] 3, .term [] 7, .term [] 5, .parent 9 3, .parent 9 7, .parent 42 3,
   .parent 3 5, .parent 7 5]

def diamond : Onto := (runB diamondOps {}).getD {}

example : runB diamondOps {} = some diamond := rfl

/-- acyclicity can be checked term by term (a decidable statement for a concrete ontology) -/
theorem acyclic_of_terms (o : Onto) (rank : Nat → Nat)
    (h1 : ∀ t ∈ o.terms, ∀ p ∈ t.parents, rank p < rank t.id)
    (h2 : ∀ j, rank j < o.terms.length + 2) : Acyclic o := by
  refine ⟨rank, ?_, h2⟩
  intro c p hp
  cases hg : getT o.terms c with
  | none => rw [parentsOf_none hg] at hp; cases hp
  | some t =>
    rw [parentsOf_eq hg] at hp
    exact getT_id hg ▸ h1 t (getT_mem hg) p hp

example : Acyclic diamond :=
  acyclic_of_terms diamond (fun j => if j = 9 then 0 else if j = 5 then 2 else 1) (by decide)
    (by intro j; show (if j = 9 then 0 else if j = 5 then 2 else 1) < 6
        split
        · decide
        · split <;> decide)

end Hpo.C01
