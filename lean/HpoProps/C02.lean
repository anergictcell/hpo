import HpoProps.C01
import HpoProofs.Annotate
/-!
# C02 — annotations reach exactly the ancestors; gene/disease records stay direct

A gene / OMIM / ORPHA record is on a term iff it was annotated to that term or to one of its descendants, while
the record itself lists exactly the terms it was annotated with; every id resolves; the kinds do not leak.
Model (`HpoModel/Builder.lean`): `Onto.addRec`, `Onto.annotate` with the upward walk `Onto.link`, one function
for the three kinds (`Kind = gene | omim | orpha`; every theorem quantifies over the kind), run over histories
`runA` (`HpoProofs/AOps.lean`) of `add_gene`/`add_*_disease` and `annotate_*` calls: any order, failing calls
included, no bound on the number of terms, records or calls.

Hypotheses. `C02_inherited_iff` and `C02_resolves` start from the connected ontology of a term-level history
(`runB tops {} = some o`, `Acyclic o`, `o.connectAll = .ok oc`: the setting of C01). `C02_history`,
`C02_direct_step` and `C02_no_leak` are about any state of the annotation phase, described by
* `hc : AncClosure anc ex rank` (`HpoProofs/Link.lean`): the ancestor function `anc` is transitive, `rank`
  decreases along it, and the ancestors of an existing term (`ex`) exist: what C01 proves of the cached groups;
* `h : AnnInv anc ex o` (`HpoProofs/Annotate.lean`): the invariant of `Builder<ConnectedTerms>`: `anc` and `ex`
  are the ancestor groups and the terms of `o`, a record is on a term iff it is annotated to the term or a
  descendant, direct terms exist, all groups strictly ascending;
* `hf`: every rank is below the fuel of `link` (`Onto.linkFuel` = `#terms + 2`).
All three hold on every connected builder state, with `anc := ancOf oc`, `ex := present oc`: `connected_annState`.

Not here. The other construction paths are not treated call by call; each is shown to BE such a history:
binary data `C08_file_is_builder_run`, the text loaders `C09_file_is_builder_run`, `sub_ontology`
`C14_is_builder_run` (with the conclusions restated for its result: `C14_again`).
"Every record lists exactly its directly annotated terms" is stated per call (`C02_direct_step`); for a whole
history it is `AnnState.runA_hposOf` (`HpoProofs/ObsEq.lean`).

Besides the property theorems: `ancOf`, `present`, `connected_annState`, through which C03, C15, C16 and the
loaders (`HpoProofs/Built.lean`, `HpoProofs/BuilderRun.lean`) enter the annotation phase.
-/
namespace Hpo.C02
open Hpo.C01 Relation Group

/-- the ancestor function of a connected ontology -/
def ancOf (o : Onto) : Nat → List Nat := allOf o.terms
/-- `j` is a term of `o`; with `ancOf` the instance at which `AncClosure` / `AnnInv` are used -/
def present (o : Onto) (j : Nat) : Prop := (getT o.terms j).isSome

/-- A connected ontology (result of `connect_all_terms` on any term-level history) is a state of the
annotation phase: its cached ancestor groups form a closure and the annotation invariant holds, nothing being
annotated yet (`Connected.annOf_nil`, `Connected.recs_nil`). -/
theorem connected_annState {o o' : Onto} (C : Connected o o') :
    ∃ rank : Nat → Nat, AnnState (ancOf o') (present o') rank o' := by
  obtain ⟨rank, hrank, hbound⟩ := C.acyclic
  have hex := C.closure
  have hhp : ∀ k r, hposOf k o' r = [] := fun k => hposOf_nil (C.recs_nil k)
  refine ⟨rank, ⟨?_, ?_, ?_⟩, ⟨fun _ => rfl, fun _ => Iff.rfl, ?_, ?_, ?_, ?_, ?_⟩, ?_⟩
  · intro t a b ha hb; exact (hex t b).2 (((hex t a).1 ha).trans ((hex a b).1 hb))
  · intro t a ha; exact transGen_rank hrank ((hex t a).1 ha)
  · -- membership in a cached group is reachability, so its members are parents of some term
    intro t a _ ha
    obtain ⟨c, -, hc⟩ := TransGen.tail'_iff.1 ((hex t a).1 ha)
    unfold present; rw [C.upd.isSome]; exact C.pre.closedP c a hc
  · intro j hj; rw [C.upd.isSome] at hj; exact C.pre.small j hj
  · intro k j; rw [C.annOf_nil]; exact sorted_nil
  · intro k x r; rw [C.annOf_nil, hhp]; simp
  · intro k r d hd; rw [hhp] at hd; simp at hd
  · intro k r; rw [hhp]; exact sorted_nil
  · rw [length_eq_of_map_eq C.upd.1]; exact hbound

/-- **Every history keeps the invariant.** From any state of the annotation phase, any sequence of
`add_gene`/`add_*_disease`/`annotate_*` calls (failing ones included) ends in a state where `AnnInv` holds again
— in particular its clause `linked`, "on a term iff annotated to it or to a descendant" — and the arena has as
many terms as before (which keeps `hf` true). `C02_inherited_iff` and `C02_resolves` read their conclusions off
this state. -/
theorem C02_history (anc : Nat → List Nat) (ex : Nat → Prop) (rank : Nat → Nat)
    (hc : AncClosure anc ex rank) (ops : List AOp) :
    ∀ (o : Onto), AnnInv anc ex o → (∀ j, rank j < o.terms.length + 2) →
      AnnInv anc ex (runA ops o) ∧ (runA ops o).terms.length = o.terms.length :=
  fun o h hf =>
    have S : AnnState anc ex rank o := ⟨hc, h, hf⟩
    ⟨(S.run ops).inv, (runA_frame ops o).length⟩

/-- **Inheritance.** After any history, a record of kind `k` is linked to term `x` iff it is
directly annotated to `x` itself or to a descendant of `x`. -/
theorem C02_inherited_iff (tops : List BOp) (o oc : Onto) (hrun : runB tops {} = some o)
    (hac : Acyclic o) (hc : o.connectAll = .ok oc) (ops : List AOp) (k : Kind) (x r : Nat) :
    r ∈ annOf k (runA ops oc).terms x ↔
      ∃ d, d ∈ hposOf k (runA ops oc) r ∧ (d = x ∨ x ∈ ancOf oc d) := by
  obtain ⟨rank, S⟩ := connected_annState (connected_of_run hrun hac hc)
  exact ((S.run ops).inv.linked k x r).trans
    (exists_congr fun d => and_congr_right fun _ => or_congr_left eq_comm)

/-- **Every id resolves.** Records on a term are records of the ontology; direct terms of a
record are terms of the ontology. -/
theorem C02_resolves (tops : List BOp) (o oc : Onto) (hrun : runB tops {} = some o)
    (hac : Acyclic o) (hc : o.connectAll = .ok oc) (ops : List AOp) (k : Kind) :
    (∀ x r, r ∈ annOf k (runA ops oc).terms x → (getR ((runA ops oc).recs k) r).isSome) ∧
    (∀ r d, d ∈ hposOf k (runA ops oc) r → (getT (runA ops oc).terms d).isSome) := by
  obtain ⟨rank, S⟩ := connected_annState (connected_of_run hrun hac hc)
  have H := (S.run ops).inv
  constructor
  · intro x r hr
    obtain ⟨d, hd, _⟩ := (H.linked k x r).1 hr
    exact isSome_of_mem_getD hd
  · intro r d hd
    exact (H.pres d).2 (H.recTerms k r d hd)

/-- **Records stay direct.** Effect of one call on the direct terms of every record of every kind:
only a successful `annotate_*(k, rid, _, t)` changes anything, and it adds exactly `t` to record
`rid` of kind `k`. For a whole history: `AnnState.runA_hposOf` (`HpoProofs/ObsEq.lean`). -/
theorem C02_direct_step (anc : Nat → List Nat) (ex : Nat → Prop) (rank : Nat → Nat)
    (hc : AncClosure anc ex rank) (o : Onto) (h : AnnInv anc ex o)
    (hf : ∀ j, rank j < o.terms.length + 2) (k' : Kind) (r : Nat) :
    (∀ k n i, hposOf k' (applyA o (.addRec k n i)) r = hposOf k' o r) ∧
    (∀ k rid n t, ¬ ex t → hposOf k' (applyA o (.annotate k rid n t)) r = hposOf k' o r) ∧
    (∀ k rid n t, ex t → hposOf k' (applyA o (.annotate k rid n t)) r =
      if k' = k ∧ r = rid then (insert (hposOf k o rid) t).1 else hposOf k' o r) := by
  have S : AnnState anc ex rank o := ⟨hc, h, hf⟩
  refine ⟨fun k n i => hposOf_addRec o k k' n i r, ?_, ?_⟩
  · intro k rid n t hne; rw [h.applyA_absent k rid n hne]
  · intro k rid n t hext
    rw [hposOf_of_rest (S.applyA_present k rid n hext).2.rest, hposOf_addTermToRec]

/-- **Records stay direct / kinds do not leak.** A call of kind `k` changes neither the records
nor the term links of another kind `k'`. -/
theorem C02_no_leak (anc : Nat → List Nat) (ex : Nat → Prop) (rank : Nat → Nat)
    (hc : AncClosure anc ex rank) (o : Onto) (h : AnnInv anc ex o)
    (hf : ∀ j, rank j < o.terms.length + 2) (k k' : Kind) (hk : k' ≠ k) (rid : Nat)
    (n : List Char) (t : Nat) :
    (∀ j, annOf k' (applyA o (.annotate k rid n t)).terms j = annOf k' o.terms j) ∧
    (applyA o (.annotate k rid n t)).recs k' = o.recs k' ∧
    (∀ j, annOf k' (applyA o (.addRec k n rid)).terms j = annOf k' o.terms j) ∧
    (applyA o (.addRec k n rid)).recs k' = o.recs k' :=
  have hann := applyA_annotate_ne o hk rid n t
  ⟨hann.1, hann.2, fun _ => by rw [applyA, Onto.addRec, terms_setRecs],
    recs_setRecs_ne _ _ _ _ hk⟩

/-- **Records without terms.** `add_gene`/`add_*_disease` alone creates a record (if vacant)
with no direct term, and links it to no term. -/
theorem C02_records_without_terms (o : Onto) (k : Kind) (n : List Char) (i : Nat) :
    (getR ((o.addRec k n i).recs k) i).isSome ∧
    (∀ k' r, hposOf k' (o.addRec k n i) r = hposOf k' o r) ∧
    (o.addRec k n i).terms = o.terms := by
  refine ⟨?_, fun k' r => hposOf_addRec o k k' n i r, by simp [Onto.addRec, terms_setRecs]⟩
  simp only [Onto.addRec, recs_setRecs, getR_addR]
  cases getR (o.recs k) i <;> simp

/-- a failing `annotate_*` (unknown term) returns `DoesNotExist` and leaves the builder unchanged -/
theorem C02_failing_call_no_effect (o : Onto) (k : Kind) (rid : Nat) (n : List Char) (t : Nat)
    (h : (o.get t).isNone) :
    o.annotate k rid n t = .err .doesNotExist ∧ applyA o (.annotate k rid n t) = o := by
  have : o.get t = none := by simpa using h
  simp [Onto.annotate, applyA, this]

/-! ### non-vacuity: the diamond of C01 with annotations on an inner node, a leaf, repeated facts,
a record without term and a failing call; gene 7 is on 3 and its ancestor 9, not on 7 or 5 -/

def annOps : List AOp :=
  [.addRec .gene [] 1, .annotate .gene 7 [] 3, .annotate .omim 7 [] 5, .annotate .gene 7 [] 3,
   .annotate .gene 8 [] 42, .annotate .orpha 2 [] 9]

example : ∃ oc, diamond.connectAll = .ok oc ∧
    annOf .gene (runA annOps oc).terms 9 = [7] ∧ annOf .gene (runA annOps oc).terms 5 = [] ∧
    annOf .omim (runA annOps oc).terms 3 = [7] ∧ hposOf .gene (runA annOps oc) 7 = [3] ∧
    hposOf .gene (runA annOps oc) 1 = [] ∧ (getR (runA annOps oc).genes 8).isNone := by
  refine ⟨_, rfl, ?_⟩
  decide

end Hpo.C02
