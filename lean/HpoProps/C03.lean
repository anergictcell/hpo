import HpoProofs.RNum
import HpoProofs.Ic
import HpoProps.C02
import HpoProofs.BulkFast
/-!
# C03 — information content equals −ln(n/N) for each annotation kind

For every term and kind the information content is −ln(n/N), with n the records of the kind on the term after
inheritance and N the records of the kind, and 0 when n or N is 0; it is never negative and, among annotated
terms, does not decrease from an ancestor to a descendant.
Property theorems only (model: `Onto.calcIc` / `Onto.icCalc`, `HpoModel/Builder.lean`, and `icValue`,
`HpoModel/Num.lean`; helper lemmas: `HpoProofs/Ic.lean`, which defines `icPair`, `HpoProofs/RNum.lean`,
`HpoProofs/Rounded.lean`, `HpoProofs/Bulk.lean`, `HpoProofs/BulkFast.lean`).

The property comes in three pieces. What `calculate_information_content` stores for a term is the pair `(n, N)`
it hands to `InformationContent::calculate` (`C03_counts`); the value of a pair is the formula (`C03_value`);
and on every Builder history `n ≤ N` and `n` grows towards the ancestors (`C03_count_facts`, from the invariant of
C02), which is what `C03_nonneg` and `C03_monotone_counts` ask of the counts. Put together for one ontology —
the stored pair is `icPair #records #linked` — they are a clause of `Built` (`built_of_run`,
`HpoProofs/Built.lean`) and of `C14_again`.

`icValue` is the formula, written once over the numeric interface `Num` with *checked* division and evaluated
here over ℝ (the driver evaluates the same definition in `Float32`; the VALUE under `f32`/`logf` rounding is
outside the theorems — label *partial*, see DESIGN.md 2.5), and a second time at `RVal R` for every rounding
regime `R : Rounding` (`HpoProofs/Rounded.lean` says what is assumed: monotone, exact on the integers up to 2^24,
positive from 2^-126 on, a monotone logarithm; no nearest-ness, no error bound; every correctly-rounding
arithmetic without overflow is one): definedness, sign, zero cases and monotonicity hold there too
(`C03_*_rounded`).

One section is not about the property: `C03_bulk_is_repeated_add`, `C03_bulk_annotate_is_repeated_annotate` say
that the bulk calls the driver runs on large record sets are the repeated Builder calls.
-/
namespace Hpo.C03
open Hpo.C02

/-- what the three passes store: for every term and kind the pair (number of records of the kind
linked to the term after inheritance, number of records of the kind), or `(0,0)` if one is 0;
nothing else changes; the three kinds are computed independently -/
theorem C03_counts (o o' : Onto) (h : o.calcIc = .ok o') :
    o'.terms = o.terms.map (fun t =>
      ((t.setIc .gene (icPair o.genes.length t.genes.length)).setIc .omim
        (icPair o.omim.length t.omim.length)).setIc .orpha (icPair o.orpha.length t.orpha.length)) ∧
    o'.genes = o.genes ∧ o'.omim = o.omim ∧ o'.orpha = o.orpha :=
  calcIc_ok o o' h

/-- the only way `calculate_information_content` fails is `TryFromIntError`; it never panics. When it
does — some non-zero pair of counts with one beyond 65 535 — is `calcIc_spec` (`HpoProofs/Ic.lean`). -/
theorem C03_error_kind (o : Onto) :
    (∃ o', o.calcIc = .ok o') ∨ o.calcIc = .err .tryFromInt := by
  rcases calcIc_spec o with ⟨_, e⟩ | ⟨_, e⟩
  · exact Or.inl ⟨_, e⟩
  · exact Or.inr e

/-! ### the value, over ℝ -/

/-- **Value.** `icValue (n, N)` is defined (no zero denominator is divided by) and equals
`0` if `n = 0 ∨ N = 0`, else `−ln(n/N)` -/
theorem C03_value (total cur : Nat) :
    (icValue (icPair total cur) : Option ℝ) =
      some (if total = 0 ∨ cur = 0 then 0 else -Real.log ((cur : ℝ) / (total : ℝ))) := by
  by_cases h0 : total = 0 ∨ cur = 0
  · rw [icPair, if_pos h0, if_pos h0, icValue, if_pos (Or.inl rfl)]
    exact congrArg some Nat.cast_zero
  · rw [icPair, if_neg h0, if_neg h0]
    exact icValue_real (Nat.pos_of_ne_zero fun h => h0 (Or.inr h)) (Nat.pos_of_ne_zero fun h => h0 (Or.inl h))

/-- the same for whatever pair `InformationContent::calculate(total, current)` stores — this is the
function `HpoSet::information_content` uses as well (C13: `current` = size of the union over the
members, `total` = number of records) -/
theorem C03_value_of_calc (total cur : Nat) (p : Nat × Nat) (h : Onto.icCalc total cur = .ok p) :
    (icValue p : Option ℝ) =
      some (if total = 0 ∨ cur = 0 then 0 else -Real.log ((cur : ℝ) / (total : ℝ))) := by
  rw [((icCalc_ok_iff total cur p).1 h).1]
  exact C03_value total cur

/-- **Never negative** (and, being a real number, never NaN or infinite) when `n ≤ N` -/
theorem C03_nonneg (total cur : Nat) (h : cur ≤ total) :
    ∃ v : ℝ, (icValue (icPair total cur) : Option ℝ) = some v ∧ 0 ≤ v := by
  refine ⟨_, C03_value total cur, ?_⟩
  split
  · exact le_refl 0
  · rename_i h0
    exact neg_log_ratio_nonneg (Nat.pos_of_ne_zero fun e => h0 (Or.inr e)) h

/-- **Monotone.** With the same total, more linked records means lower information content:
`n_d ≤ n_a → ic(a) ≤ ic(d)` for `n_d > 0` -/
theorem C03_monotone_counts (total na nd : Nat) (hd : 0 < nd) (h : nd ≤ na) (hN : na ≤ total) :
    ∀ va vd : ℝ, (icValue (icPair total na) : Option ℝ) = some va →
      (icValue (icPair total nd) : Option ℝ) = some vd → va ≤ vd := by
  intro va vd ha hdv
  have hna : 0 < na := Nat.lt_of_lt_of_le hd h
  have hT : 0 < total := Nat.lt_of_lt_of_le hna hN
  rw [icPair_pos hT hna, icValue_real hna hT] at ha
  rw [icPair_pos hT hd, icValue_real hd hT] at hdv
  cases ha; cases hdv
  have hTp : (0 : ℝ) < total := Nat.cast_pos.2 hT
  exact neg_le_neg (Real.log_le_log (div_pos (Nat.cast_pos.2 hd) hTp)
    (div_le_div_of_nonneg_right (Nat.cast_le.2 h) hTp.le))

/-! ### counts of builder histories: `n ≤ N`, and `n` grows towards the ancestors -/

/-- **n ≤ N and ancestor ⊇ descendant** for every term of every ontology the Builder produces:
the records linked to a term are distinct records of the ontology, and every record linked to a
term is linked to each of its ancestors. Together with `C03_nonneg` / `C03_monotone_counts`:
information content is never negative and never decreases from an ancestor to a descendant
(among annotated terms). -/
theorem C03_count_facts (tops : List BOp) (o oc : Onto) (hrun : runB tops {} = some o)
    (hac : C01.Acyclic o) (hc : o.connectAll = .ok oc) (ops : List AOp) (k : Kind) :
    (∀ x, (annOf k (runA ops oc).terms x).length ≤ ((runA ops oc).recs k).length) ∧
    (∀ d a, a ∈ ancOf oc d →
      (annOf k (runA ops oc).terms d).length ≤ (annOf k (runA ops oc).terms a).length) := by
  obtain ⟨rank, S⟩ := connected_annState (C01.connected_of_run hrun hac hc)
  have H := (S.run ops).inv
  refine ⟨H.ann_length_le k, fun d a ha => ?_⟩
  exact List.Nodup.length_le_of_subset (H.sorted k d).nodup
    fun r hr => H.upclosed rank S.closure k d r hr a ha

/-! ### driver fast paths (for the correspondence check only): large record sets -/

/-- The one-pass bulk insertion the driver runs for ontologies with tens of thousands of records
(the u16 limit of the calculation, ic close to 0) is the `count`-fold repetition of the Builder
call `add_gene` / `add_omim_disease` / `add_orpha_disease` — the harness makes exactly those calls. -/
theorem C03_bulk_is_repeated_add (o : Onto) (k : Kind) (name : List Char) (first count : Nat) :
    o.addRecRangeFast k name first count = o.addRecRange k name first count :=
  Onto.addRecRangeFast_eq o k name first count

/-- The one-pass bulk annotation the driver runs (`bulkann`: when a guard evaluated on the term and
its cached ancestors holds, the records `first+count-1, …, first` are appended and the ids are put in
front of the annotation groups of the term and its cached ancestors; otherwise the calls are made one
by one) is the `count`-fold repetition of the Builder call `annotate_*` in descending id order,
stopping at the first error — for all arguments; the harness makes exactly those calls. -/
theorem C03_bulk_annotate_is_repeated_annotate (o : Onto) (k : Kind) (name : List Char)
    (t first count : Nat) :
    o.annotateRangeFast k name t first count = o.annotateRange k name t first count :=
  Onto.annotateRangeFast_eq o k name t first count

/-! ### the sign / order clauses for every rounding regime `R : Rounding`

`R : Rounding` (`HpoProofs/Rounded.lean`) is a structure of explicit hypotheses on a rounding
function and a library logarithm (monotone, small integers exact, no flush to zero in the normal
range, `lg` monotone with `lg 1 = 0`; NOT exact); `RVal R` evaluates the SAME `icValue` with every
operation rounded: `rnd (lg (rnd (n / N)) * (-1))`.  What these theorems leave to trust is only
that `f32` with the platform `logf` is such an arithmetic. -/

/-- without annotations (or without records) the value is exactly 0 -/
theorem C03_zero_rounded (R : Rounding) (total cur : Nat) (h : total = 0 ∨ cur = 0) :
    (icValue (icPair total cur) : Option (RVal R)) = some ⟨0⟩ := by
  rw [icPair, if_pos h, icValue, if_pos (Or.inl rfl), RVal.ext' NumR.ofNat_zero_v]

/-- **Defined and never negative under rounding**: for counts `n ≤ N ≤ 65535` (the code's `u16`
guard) no zero denominator is divided by, the argument of the logarithm is positive (never
`ln 0 = -inf`) and the result is ≥ 0 -/
theorem C03_nonneg_rounded (R : Rounding) (total cur : Nat) (h : cur ≤ total) (hT : total ≤ 65535) :
    ∃ v : RVal R, (icValue (icPair total cur) : Option (RVal R)) = some v ∧ 0 ≤ v.v := by
  by_cases h0 : total = 0 ∨ cur = 0
  · exact ⟨_, C03_zero_rounded R total cur h0, le_refl _⟩
  · rw [icPair, if_neg h0]
    exact (icValue_pos_counts (Nat.pos_of_ne_zero fun e => h0 (Or.inr e)) h hT).2.2 R

/-- a term that carries every record of the kind (the root) has information content exactly 0
under rounding as well: `rnd (N / N) = 1`, `lg 1 = 0`, `0 * (-1) = 0` (`-0.0 == 0.0` in `f32`) -/
theorem C03_all_records_rounded (R : Rounding) (total : Nat) (hT : total ≤ 65535) :
    (icValue (icPair total total) : Option (RVal R)) = some ⟨0⟩ := by
  by_cases h0 : total = 0
  · exact C03_zero_rounded R total total (Or.inl h0)
  · have hp : 0 < total := Nat.pos_of_ne_zero h0
    have hne : (total : ℝ) ≠ 0 := Nat.cast_ne_zero.2 h0
    rw [icPair_pos hp hp, icValue_rounded R hp (le_refl _) hT, div_self hne, R.rnd_one, R.lg_one,
      zero_mul, R.rnd_zero]

/-- **Monotone under rounding.** With the same total, more linked records never means a higher
ROUNDED information content: every step (`rnd (n / N)`, `lg`, `* (-1)`) is monotone -/
theorem C03_monotone_counts_rounded (R : Rounding) (total na nd : Nat) (hd : 0 < nd) (h : nd ≤ na)
    (hN : na ≤ total) (hT : total ≤ 65535) :
    ∀ va vd : RVal R, (icValue (icPair total na) : Option (RVal R)) = some va →
      (icValue (icPair total nd) : Option (RVal R)) = some vd → va.v ≤ vd.v := by
  intro va vd ha hdv
  have hna : 0 < na := Nat.lt_of_lt_of_le hd h
  have hT0 : 0 < total := Nat.lt_of_lt_of_le hna hN
  have hdT : nd ≤ total := Nat.le_trans h hN
  rw [icPair_pos hT0 hna, icValue_rounded R hna hN hT] at ha
  rw [icPair_pos hT0 hd, icValue_rounded R hd hdT hT] at hdv
  cases ha; cases hdv
  have hTp : (0 : ℝ) < total := Nat.cast_pos.2 hT0
  have hq : R.rnd ((nd : ℝ) / total) ≤ R.rnd ((na : ℝ) / total) :=
    R.mono (div_le_div_of_nonneg_right (Nat.cast_le.2 h) hTp.le)
  have hl := R.lg_mono (Set.mem_Ioi.2 (ratio_bounds R hd hdT hT).1)
    (Set.mem_Ioi.2 (ratio_bounds R hna hN hT).1) hq
  exact R.mono (by rw [mul_neg_one, mul_neg_one]; exact neg_le_neg hl)

/-! ### non-vacuity -/
/-- the exact arithmetic is a `Rounding`, and there the rounded value is the real one -/
example : (icValue (icPair 4 1) : Option (RVal Rounding.exact)) = some ⟨-Real.log ((1 : ℝ) / 4)⟩ := by
  rw [icPair_pos (by decide) (by decide),
    icValue_rounded Rounding.exact (n := 1) (N := 4) (by decide) (by decide) (by decide)]
  congr 1
  apply RVal.ext'
  simp [Rounding.exact]
/-- … and in the genuinely inexact regime `Rounding.grid` (every result, also of `ln`, rounded
down to a multiple of 2^-126) the theorems apply just the same -/
example : ∃ v : RVal Rounding.grid, (icValue (icPair 4 1) : Option (RVal Rounding.grid)) = some v ∧
    0 ≤ v.v := C03_nonneg_rounded Rounding.grid 4 1 (by decide) (by decide)
example : Rounding.grid.rnd (((2 : ℝ)⁻¹) ^ 127) = 0 ∧ ((2 : ℝ)⁻¹) ^ 127 ≠ 0 := Rounding.grid_inexact
example : (icValue (icPair 4 1) : Option ℝ) = some (-Real.log ((1 : ℝ) / 4)) := by
  rw [C03_value]; norm_num
example : (icValue (icPair 0 0) : Option ℝ) = some 0 := by rw [C03_value]; simp
example : Onto.icCalc 70000 3 = .err .tryFromInt := by decide
example : Onto.icCalc 70000 0 = .ok (0, 0) := by decide

end Hpo.C03
