import HpoProofs.Similarity
import HpoProofs.Distance
/-!
# C04 — built-in term similarities follow their definitions, symmetric, finite, ≥ 0

Each built-in similarity (GraphIC, Resnik, Lin, Jiang-Conrath, Relevance, Information-Coefficient, Distance,
Mutation) returns the value of its documented formula; the score does not depend on the argument order, is
defined (never NaN / ±inf) and ≥ 0; a term with itself scores 1 for GraphIC, Jiang-Conrath, Distance and
Mutation, two distinct unannotated terms 0 for Mutation.
Theorems about `HpoModel/Similarity.lean` instantiated at `ℝ` (`HpoProofs/NumReal.lean`), with
CHECKED division: an algorithm returns `none` exactly when the code would divide by zero
(NaN / ±inf in `f32`), so `C04_defined_nonneg` is the "never NaN, always finite" content.
Helper lemmas: `HpoProofs/Similarity.lean`, `HpoProofs/Distance.lean`; in this file, besides the property
theorems, `mutationDisease_eq` / `mutationGene_eq` (the two bodies of Mutation), `core` / `coreR` with `core_eq` /
`coreR_eq` (the dispatch at `ℝ` / `RVal R`, in which the statements are written), and the instance lemmas of the
examples `exIc_hyps`, `C04_rounded_hypotheses_satisfiable`.

The information content is an arbitrary function `ic : ℕ → ℝ` of the term id, constrained only by
C03's conclusions, taken as explicit hypotheses:
  * `hn : ∀ i, 0 ≤ ic i`;
  * `Mono ic t` : if `0 < ic t` (the term carries an annotation of the kind and not all of them)
    then `ic c ≤ ic t` for every ancestor `c` of `t`.
NO theorem derives them for the information content of an ontology: they follow from `C03_nonneg` and from
`C03_count_facts` with `C03_monotone_counts`, but that is carried out nowhere (see `Mono`,
`HpoProofs/Similarity.lean`); whoever applies C04 to `Sim.icOf o k` proves them first.
Ancestor groups / annotation sets are sorted id vectors (`Sorted`, C12/C01's invariant), which is
only needed for the argument-order symmetry (both orders then walk the same vector).
`PathWF o rank`, the hypothesis of the Distance theorems through the dispatch (`C04_symm_distance`,
`C04_symm_builtin`), is explained at the head of `HpoProps/C11.lean`; every `Reachable` ontology has it
(`C07_reachable_pathWF`), and so has the result of `sub_ontology` (`C14_result_wf`).
No bound on the size of the ontology, the ancestor sets or the ids.

PARTIAL (see `lib/propmeta.py`): the formula theorems are over ℝ; how close the f32 VALUES are
(rounding, accuracy of `logf`/`expf`) is covered only by the tolerance of the correspondence check.
The symmetry / definedness / sign / range / self-similarity clauses hold for every rounding regime
`R : Rounding` as well (`HpoProofs/Rounded.lean` says what is assumed: monotone, exact on the integers up to
2^24, positive from 2^-126 on, `ex x ≤ 1` for `x ≤ 0`; no nearest-ness, no error bound; every correctly-rounding
arithmetic without overflow is one): `C04_*_rounded`, proved in `HpoProofs/Similarity.lean` once, for `ℝ`
and every `RVal R` together, and stated here for each.
-/
namespace Hpo.C04
open Hpo.Sim Hpo.Group Hpo.NumReal

/-- inclusive common ancestors / union of the strict ancestor sets: membership, no duplicates -/
theorem C04_groups (a b : Term) (ha : Sorted a.allParents) (hb : Sorted b.allParents) :
    (∀ c, c ∈ a.allCommonAncestorIds b ↔
      (c = a.id ∨ c ∈ a.allParents) ∧ (c = b.id ∨ c ∈ b.allParents)) ∧
    (∀ c, c ∈ a.unionAncestorIds b ↔ c ∈ a.allParents ∨ c ∈ b.allParents) ∧
    (a.allCommonAncestorIds b).Nodup ∧ (a.unionAncestorIds b).Nodup :=
  ⟨a.mem_allCommonAncestorIds b, a.mem_unionAncestorIds b, (a.sorted_allCommonAncestorIds b ha hb).nodup,
    (a.sorted_unionAncestorIds b ha hb).nodup⟩

/-! ### the formulas, over ℝ -/

theorem C04_formula_graphic (ic : ℕ → ℝ) (a b : Term) :
    graphIc ic a b = some
      (if a.id = b.id then 1
       else if ((a.unionAncestorIds b).map ic).sum = 0 then 0
       else ((a.allCommonAncestorIds b).map ic).sum / ((a.unionAncestorIds b).map ic).sum) := by
  rw [graphIc, isZero_eq, sumIc_eq, sumIc_eq, ofNat_eq, ofNat_eq, Nat.cast_one, Nat.cast_zero]
  simp only [decide_eq_true_eq]
  split
  · rfl
  · split
    · rfl
    · rename_i hz; exact div?_of_ne _ hz

/-- Resnik = the largest ic among the inclusive common ancestors, 0 if there is none (or all are 0):
it bounds every candidate, and it is attained (or 0) -/
theorem C04_formula_resnik (ic : ℕ → ℝ) (a b : Term) :
    resnik ic a b = ((a.allCommonAncestorIds b).map ic).foldl max 0 ∧
    (∀ c ∈ a.allCommonAncestorIds b, ic c ≤ resnik ic a b) ∧ 0 ≤ resnik ic a b ∧
    (resnik ic a b = 0 ∨ ∃ c ∈ a.allCommonAncestorIds b, resnik ic a b = ic c) := by
  have e : (fun m x : ℝ => if Num.lt m x then x else m) = max :=
    funext fun m => funext fun x => RNum.val_sel m x
  refine ⟨?_, le_resnik ic a b, resnik_nonneg ic a b,
    (resnik_attained ic a b).imp_left fun h => h.trans Nat.cast_zero⟩
  rw [resnik, maxGo_eq_foldl, e, ofNat_eq, Nat.cast_zero]

theorem C04_nonneg_resnik (ic : ℕ → ℝ) (a b : Term) : 0 ≤ resnik ic a b := resnik_nonneg ic a b

theorem C04_symm_resnik (ic : ℕ → ℝ) (a b : Term) (ha : Sorted a.allParents)
    (hb : Sorted b.allParents) : resnik ic a b = resnik ic b a := by
  rw [resnik, resnik, a.allCommonAncestorIds_comm b ha hb]

/-- Resnik never exceeds the ic of either argument with positive ic (used by Jiang-Conrath) -/
theorem C04_resnik_le_min (ic : ℕ → ℝ) (a b : Term) (hma : Mono ic a) (hmb : Mono ic b)
    (h1 : 0 < ic a.id) (h2 : 0 < ic b.id) : resnik ic a b ≤ min (ic a.id) (ic b.id) :=
  le_min (resnik_le_left ic a b hma h1) (resnik_le_right ic a b hmb h2)

theorem C04_formula_lin (ic : ℕ → ℝ) (a b : Term) :
    lin ic a b = some
      (if ic a.id + ic b.id = 0 then 0 else 2 * resnik ic a b / (ic a.id + ic b.id)) := by
  rw [lin, isZero_eq, add_eq, mul_eq, ofNat_eq, ofNat_eq, Nat.cast_zero, Nat.cast_ofNat]
  simp only [decide_eq_true_eq]
  split
  · rfl
  · rename_i hz; exact div?_of_ne _ hz

theorem C04_formula_jc (ic : ℕ → ℝ) (a b : Term) (hn : ∀ i, 0 ≤ ic i) (hma : Mono ic a)
    (hmb : Mono ic b) :
    jc ic a b = some
      (if a.id = b.id then 1
       else if ic a.id = 0 ∨ ic b.id = 0 then 0
       else 1 / (ic a.id + ic b.id - 2 * resnik ic a b + 1)) ∧
    (a.id ≠ b.id → ic a.id ≠ 0 → ic b.id ≠ 0 → 1 ≤ ic a.id + ic b.id - 2 * resnik ic a b + 1) := by
  have hd : ic a.id ≠ 0 → ic b.id ≠ 0 → 1 ≤ ic a.id + ic b.id - 2 * resnik ic a b + 1 := by
    intro h1 h2
    rw [← jcDenom_eq]
    exact jcDenom_ge_one ic a b hn hma hmb h1 h2
  refine ⟨?_, fun _ => hd⟩
  rw [jc, isZero_eq, isZero_eq, ← Bool.decide_or, ← jcDenom_eq, ofNat_eq, ofNat_eq, Nat.cast_one,
    Nat.cast_zero]
  split
  · rfl
  · simp only [decide_eq_true_eq]
    split
    · rfl
    · rename_i h0
      rw [not_or] at h0
      exact div?_of_ne _ (zero_lt_one.trans_le (jcDenom_eq ic a b ▸ hd h0.1 h0.2)).ne'

theorem C04_formula_relevance (ic : ℕ → ℝ) (a b : Term) :
    relevance ic a b = some
      ((if ic a.id + ic b.id = 0 then 0 else 2 * resnik ic a b / (ic a.id + ic b.id))
        * (1 - Real.exp (-(resnik ic a b)))) := by
  rw [relevance, C04_formula_lin, Option.map_some, mul_eq, sub_eq, ofNat_eq, Nat.cast_one, exp_eq,
    neg_eq]

theorem C04_formula_infocoef (ic : ℕ → ℝ) (a b : Term) :
    infoCoef ic a b = some
      ((if ic a.id + ic b.id = 0 then 0 else 2 * resnik ic a b / (ic a.id + ic b.id))
        * (1 - 1 / (1 + resnik ic a b))) ∧ 1 + resnik ic a b ≠ 0 := by
  have hne : (1 : ℝ) + resnik ic a b ≠ 0 :=
    (zero_lt_one.trans_le (le_add_of_nonneg_right (C04_nonneg_resnik ic a b))).ne'
  refine ⟨?_, hne⟩
  rw [infoCoef, C04_formula_lin, Option.bind_some, add_eq, ofNat_eq, Nat.cast_one, div?_of_ne _ hne,
    Option.map_some, mul_eq, sub_eq]

theorem C04_formula_distance (d : Option ℕ) :
    (distanceSim d : Option ℝ) = some (match d with | none => 0 | some n => 1 / ((n : ℝ) + 1)) := by
  cases d with
  | none => exact congrArg some Nat.cast_zero
  | some n =>
    rw [distanceSim, add_eq, ofNat_eq, ofNat_eq, Nat.cast_one]
    exact div?_of_ne _ (Nat.cast_add_one_pos n).ne'

theorem mutationDisease_eq (x y : List ℕ) :
    (mutationDisease x y : Option ℝ) = some
      (if bitor x y = [] then 0 else ((bitand x y).length : ℝ) / ((bitor x y).length : ℝ)) := by
  rw [mutationDisease, ofNat_eq, ofNat_eq, ofNat_eq, Nat.cast_zero]
  simp only [List.isEmpty_iff]
  split
  · rfl
  · rename_i h
    exact div?_of_ne _ (Nat.cast_ne_zero.2 fun e => h (List.length_eq_zero_iff.1 e))

theorem mutationGene_eq (x y : List ℕ) :
    (mutationGene x y : Option ℝ) = some
      (if bitor x y = [] then 0 else ((bitand x y).length : ℝ) / ((bitor x y).length : ℝ)) :=
  mutationDisease_eq x y

/-- Mutation = |A ∩ B| / |A ∪ B| of the two annotation sets of the kind (`bitand`/`bitor` are
intersection and union of sorted id sets by C12), 0 for ∅/∅, 1 for a term with itself -/
theorem C04_formula_mutation (k : Kind) (a b : Term) :
    (mutation k a b : Option ℝ) = some
      (if a.id = b.id then 1
       else if bitor (a.ann k) (b.ann k) = [] then 0
       else ((bitand (a.ann k) (b.ann k)).length : ℝ) / ((bitor (a.ann k) (b.ann k)).length : ℝ)) := by
  rw [mutation_eq, mutationDisease_eq, ofNat_eq, Nat.cast_one, ← apply_ite some]

/-- … where the two counts are the cardinalities of the intersection and of the union of the two
annotation sets -/
theorem C04_mutation_counts (x y : List ℕ) (hx : Sorted x) (hy : Sorted y) :
    (bitand x y).length = (x.toFinset ∩ y.toFinset).card ∧
    (bitor x y).length = (x.toFinset ∪ y.toFinset).card := by
  constructor
  · rw [← List.toFinset_card_of_nodup (sorted_bitand x y hx hy).nodup]
    congr 1
    ext c
    simp [mem_bitand]
  · rw [← List.toFinset_card_of_nodup (sorted_bitor x y hx hy).nodup]
    congr 1
    ext c
    simp [mem_bitor]

/-- two distinct terms without any annotation of the kind score 0 -/
theorem C04_mutation_unannotated (k : Kind) (a b : Term) (hab : a.id ≠ b.id)
    (ha : a.ann k = []) (hb : b.ann k = []) : (mutation k a b : Option ℝ) = some 0 := by
  rw [C04_formula_mutation]
  simp [hab, ha, hb, bitor]

/-- BEFORE the fix (`Mutation::gene_similarity` without the empty-union guard) the property is
false: two distinct terms without genes make the code divide 0 by 0 (observed: NaN) -/
theorem C04_mutation_gene_prefix_counterexample :
    ∃ a b : Term, a.id ≠ b.id ∧ (mutationPrefix .gene a b : Option ℝ) = none := by
  refine ⟨{ id := 1, name := [] }, { id := 2, name := [] }, by decide, ?_⟩
  simp [mutationPrefix, mutationGenePrefix, bitor, bitand, div?_eq]

/-! ### the clauses per algorithm, each under the hypotheses its own formula needs

Defined, ≥ 0, argument order, self-similarity, one theorem per algorithm and clause. All eight at once, under
the union of the hypotheses: `C04_defined_nonneg`, `C04_symm`, `C04_self` in the next section. -/

theorem C04_defined_graphic (ic : ℕ → ℝ) (a b : Term) : ∃ v, graphIc ic a b = some v :=
  ⟨_, C04_formula_graphic ic a b⟩

theorem C04_defined_lin (ic : ℕ → ℝ) (a b : Term) : ∃ v, lin ic a b = some v :=
  ⟨_, C04_formula_lin ic a b⟩

theorem C04_defined_jc (ic : ℕ → ℝ) (a b : Term) (hn : ∀ i, 0 ≤ ic i) (hma : Mono ic a)
    (hmb : Mono ic b) : ∃ v, jc ic a b = some v :=
  ⟨_, (C04_formula_jc ic a b hn hma hmb).1⟩

theorem C04_defined_relevance (ic : ℕ → ℝ) (a b : Term) : ∃ v, relevance ic a b = some v :=
  ⟨_, C04_formula_relevance ic a b⟩

theorem C04_defined_infocoef (ic : ℕ → ℝ) (a b : Term) : ∃ v, infoCoef ic a b = some v :=
  ⟨_, (C04_formula_infocoef ic a b).1⟩

theorem C04_defined_distance (d : Option ℕ) : ∃ v : ℝ, distanceSim d = some v :=
  ⟨_, C04_formula_distance d⟩

theorem C04_defined_mutation (k : Kind) (a b : Term) : ∃ v : ℝ, mutation k a b = some v :=
  ⟨_, C04_formula_mutation k a b⟩

theorem C04_nonneg_graphic (ic : ℕ → ℝ) (a b : Term) (hn : ∀ i, 0 ≤ ic i) (v : ℝ)
    (h : graphIc ic a b = some v) : 0 ≤ v :=
  of_defined (graphIc_defined_nonneg ic a b hn) h

theorem C04_nonneg_lin (ic : ℕ → ℝ) (a b : Term) (hn : ∀ i, 0 ≤ ic i) (v : ℝ)
    (h : lin ic a b = some v) : 0 ≤ v :=
  of_defined (lin_defined_nonneg ic a b hn) h

/-- … and `≤ 1`: past the two guards the denominator is at least 1 -/
theorem C04_nonneg_jc (ic : ℕ → ℝ) (a b : Term) (hn : ∀ i, 0 ≤ ic i) (hma : Mono ic a)
    (hmb : Mono ic b) (v : ℝ) (h : jc ic a b = some v) : 0 ≤ v ∧ v ≤ 1 :=
  of_defined (jc_defined_range ic a b hn hma hmb) h

theorem C04_nonneg_relevance (ic : ℕ → ℝ) (a b : Term) (hn : ∀ i, 0 ≤ ic i) (v : ℝ)
    (h : relevance ic a b = some v) : 0 ≤ v :=
  of_defined (relevance_defined_nonneg ic a b hn) h

theorem C04_nonneg_infocoef (ic : ℕ → ℝ) (a b : Term) (hn : ∀ i, 0 ≤ ic i) (v : ℝ)
    (h : infoCoef ic a b = some v) : 0 ≤ v :=
  of_defined (infoCoef_defined_nonneg ic a b hn) h

/-- … and `≤ 1`, for every path length and for "no path" -/
theorem C04_nonneg_distance (d : Option ℕ) (v : ℝ) (h : distanceSim d = some v) : 0 ≤ v ∧ v ≤ 1 :=
  of_defined (distanceSim_defined_range (F := ℝ) d) h

theorem C04_nonneg_mutation (k : Kind) (a b : Term) (v : ℝ) (h : mutation k a b = some v) :
    0 ≤ v :=
  of_defined (mutation_defined_nonneg (F := ℝ) k a b) h

/- argument order: a formula depends on the order of `(a, b)` only through the `&` / `|` of the vectors named
in the hypotheses (commutative on sorted vectors), the test `a.id = b.id` and the sum `ic a.id + ic b.id`; each
proof rewrites with exactly the commutations its formula reads -/
theorem C04_symm_graphic (ic : ℕ → ℝ) (a b : Term) (ha : Sorted a.allParents)
    (hb : Sorted b.allParents) : graphIc ic a b = graphIc ic b a := by
  simp only [graphIc, a.allCommonAncestorIds_comm b ha hb, a.unionAncestorIds_comm b ha hb,
    eq_comm (a := a.id)]

theorem C04_symm_lin (ic : ℕ → ℝ) (a b : Term) (ha : Sorted a.allParents)
    (hb : Sorted b.allParents) : lin ic a b = lin ic b a := by
  simp only [lin, resnik, a.allCommonAncestorIds_comm b ha hb, Num.add, add_comm (ic a.id)]

theorem C04_symm_jc (ic : ℕ → ℝ) (a b : Term) (ha : Sorted a.allParents)
    (hb : Sorted b.allParents) : jc ic a b = jc ic b a := by
  simp only [jc, jcDenom, resnik, a.allCommonAncestorIds_comm b ha hb, Num.add, add_comm (ic a.id),
    eq_comm (a := a.id), Bool.or_comm (Num.isZero (ic a.id))]

theorem C04_symm_relevance (ic : ℕ → ℝ) (a b : Term) (ha : Sorted a.allParents)
    (hb : Sorted b.allParents) : relevance ic a b = relevance ic b a := by
  simp only [relevance, lin, resnik, a.allCommonAncestorIds_comm b ha hb, Num.add, add_comm (ic a.id)]

theorem C04_symm_infocoef (ic : ℕ → ℝ) (a b : Term) (ha : Sorted a.allParents)
    (hb : Sorted b.allParents) : infoCoef ic a b = infoCoef ic b a := by
  simp only [infoCoef, lin, resnik, a.allCommonAncestorIds_comm b ha hb, Num.add, add_comm (ic a.id)]

theorem C04_symm_mutation (k : Kind) (a b : Term) (ha : Sorted (a.ann k)) (hb : Sorted (b.ann k)) :
    (mutation k a b : Option ℝ) = mutation k b a := by
  simp only [mutation_eq, mutationDisease, bitor_comm _ _ ha hb, bitand_comm _ _ ha hb,
    eq_comm (a := a.id)]

theorem C04_self_graphic (ic : ℕ → ℝ) (a : Term) : graphIc ic a a = some 1 := by
  rw [graphIc_self, ofNat_eq, Nat.cast_one]

theorem C04_self_jc (ic : ℕ → ℝ) (a : Term) : jc ic a a = some 1 := by
  rw [jc_self, ofNat_eq, Nat.cast_one]

theorem C04_self_distance : (distanceSim (some 0) : Option ℝ) = some 1 := by
  rw [distanceSim_self, ofNat_eq, Nat.cast_one]

theorem C04_self_mutation (k : Kind) (a : Term) : (mutation k a a : Option ℝ) = some 1 := by
  rw [mutation_self, ofNat_eq, Nat.cast_one]

/-! ### all eight through the `Builtins` dispatch -/

/-- `Sim.score` at `ℝ` -/
noncomputable def core (alg : Alg) (k : Kind) (ic : ℕ → ℝ) (d : Option ℕ) (a b : Term) : Option ℝ :=
  match alg with
  | .graphIc => graphIc ic a b
  | .resnik => some (resnik ic a b)
  | .lin => lin ic a b
  | .jc => jc ic a b
  | .relevance => relevance ic a b
  | .infoCoef => infoCoef ic a b
  | .distance => distanceSim d
  | .mutation => mutation k a b

/-- `core`, `coreR` (below) and `score` are one `match` at three types: the statements of this file
are written with `core` / `coreR`, their proofs once for every instance with `score` -/
theorem core_eq : core = score := by
  funext alg; cases alg <;> rfl

/-- whenever `<Builtins as Similarity>::calculate` returns (no panic), it returns the value of
the algorithm's formula -/
theorem C04_builtin_value (o : Onto) (alg : Alg) (k : Kind) (ic : ℕ → ℝ) (a b : Term)
    (r : Option ℝ) (h : builtin o alg k ic a b = .ok r) :
    ∃ d, (alg = .distance → o.distToTerm a b = .ok d) ∧ r = core alg k ic d a b := by
  rw [core_eq]; exact builtin_value o alg k ic a b r h

/-- never NaN / inf, never negative: every algorithm divides only by non-zero denominators and
returns a value ≥ 0, for every pair of terms and every kind -/
theorem C04_defined_nonneg (alg : Alg) (k : Kind) (ic : ℕ → ℝ) (d : Option ℕ) (a b : Term)
    (hn : ∀ i, 0 ≤ ic i) (hma : Mono ic a) (hmb : Mono ic b) :
    ∃ v, core alg k ic d a b = some v ∧ 0 ≤ v := by
  rw [core_eq]; exact score_defined_nonneg alg k ic d a b hn hma hmb

/-- argument order is irrelevant for every algorithm (given a symmetric distance, see
`C04_symm_distance`) -/
theorem C04_symm (alg : Alg) (k : Kind) (ic : ℕ → ℝ) (d : Option ℕ) (a b : Term)
    (ha : Sorted a.allParents) (hb : Sorted b.allParents)
    (hka : Sorted (a.ann k)) (hkb : Sorted (b.ann k)) :
    core alg k ic d a b = core alg k ic d b a := by
  rw [core_eq]; exact score_symm add_comm alg k ic d a b ha hb hka hkb

/-- a term compared with itself scores 1 for GraphIC, Jiang-Conrath, Distance and Mutation -/
theorem C04_self (k : Kind) (ic : ℕ → ℝ) (a : Term) :
    core .graphIc k ic none a a = some 1 ∧ core .jc k ic none a a = some 1 ∧
    core .distance k ic (some 0) a a = some 1 ∧ core .mutation k ic none a a = some 1 := by
  have := score_self k ic a
  rwa [ofNat_eq, Nat.cast_one, ← core_eq] at this

/-- `distance_to_term` does not depend on the argument order (on every well-formed ontology:
parents resolve, ancestor groups are the closure, acyclic — `PathWF`, see C11) -/
theorem C04_symm_distance (o : Onto) {rank : ℕ → ℕ} (wf : PathWF o rank) {i j : ℕ} (a b : Term)
    (hai : o.get i = some a) (hbj : o.get j = some b) : o.distToTerm a b = o.distToTerm b a :=
  Onto.distToTerm_symm wf hai hbj

/-- a term is at distance 0 from itself, so Distance through the dispatch scores exactly 1 -/
theorem C04_self_distance_onto (o : Onto) (k : Kind) (ic : ℕ → ℝ) (a : Term) (r : Option ℝ)
    (h : builtin o .distance k ic a a = .ok r) : r = some 1 := by
  obtain ⟨d, hd, hr⟩ := builtin_value o .distance k ic a a r h
  rw [hr, Onto.distToTerm_self o a d (hd rfl)]
  exact (C04_self k ic a).2.2.1

/-- argument order is irrelevant through the whole dispatch, including the panic checks: if
`S(a, b)` returns a value then `S(b, a)` returns the same value -/
theorem C04_symm_builtin (o : Onto) {rank : ℕ → ℕ} (wf : PathWF o rank) {i j : ℕ}
    (alg : Alg) (k : Kind) (ic : ℕ → ℝ) (a b : Term)
    (hai : o.get i = some a) (hbj : o.get j = some b)
    (ha : Sorted a.allParents) (hb : Sorted b.allParents)
    (hka : Sorted (a.ann k)) (hkb : Sorted (b.ann k)) (r : Option ℝ)
    (h : builtin o alg k ic a b = .ok r) : builtin o alg k ic b a = .ok r := by
  rw [← builtin_symm add_comm o alg k ic a b (Onto.distToTerm_symm wf hai hbj) ha hb hka hkb]
  exact h

/-! ### the order / sign / symmetry clauses for every rounding regime `R : Rounding`

`R : Rounding`, `RVal R` and what remains trusted: `HpoProofs/Rounded.lean`.  The information content
is an arbitrary `ic : ℕ → RVal R` with C03's (rounded) conclusions as hypotheses: `0 ≤ ic i`,
`MonoR ic t` (`C03_nonneg_rounded`, `C03_monotone_counts_rounded`; derived for an ontology nowhere, as over ℝ). -/

/-- Resnik only compares, so it is EXACT under every rounding: the largest ic among the inclusive
common ancestors (0 if none), attained, ≥ 0, symmetric, ≤ the ic of either argument -/
theorem C04_resnik_rounded (R : Rounding) (ic : ℕ → RVal R) (a b : Term) :
    (∀ c ∈ a.allCommonAncestorIds b, (ic c).v ≤ (resnik ic a b).v) ∧ 0 ≤ (resnik ic a b).v ∧
    ((resnik ic a b).v = 0 ∨ ∃ c ∈ a.allCommonAncestorIds b, resnik ic a b = ic c) ∧
    (Sorted a.allParents → Sorted b.allParents → resnik ic a b = resnik ic b a) ∧
    (MonoR ic a → 0 < (ic a.id).v → (resnik ic a b).v ≤ (ic a.id).v) ∧
    (MonoR ic b → 0 < (ic b.id).v → (resnik ic a b).v ≤ (ic b.id).v) :=
  ⟨le_resnik ic a b, resnik_nonneg ic a b,
    (resnik_attained ic a b).imp_left fun h => by rw [h]; exact NumR.ofNat_zero_v,
    fun ha hb => by rw [resnik, resnik, a.allCommonAncestorIds_comm b ha hb],
    resnik_le_left ic a b, resnik_le_right ic a b⟩

/-- the rounded Jiang-Conrath denominator `rnd(rnd(rnd(ic a + ic b) − rnd(2·resnik)) + 1)` is
still ≥ 1 past the two guards (monotonicity of each rounding), so `1 / denominator` is defined and
lies in [0, 1] -/
theorem C04_jc_rounded (R : Rounding) (ic : ℕ → RVal R) (a b : Term) (hn : ∀ i, 0 ≤ (ic i).v)
    (hma : MonoR ic a) (hmb : MonoR ic b) :
    ((ic a.id).v ≠ 0 → (ic b.id).v ≠ 0 → 1 ≤ (jcDenom ic a b).v) ∧
    ∃ v, jc ic a b = some v ∧ 0 ≤ v.v ∧ v.v ≤ 1 :=
  ⟨jcDenom_ge_one ic a b hn hma hmb, jc_defined_range ic a b hn hma hmb⟩

/-- Distance under rounding: `rnd (1 / rnd (rnd n + 1))` is defined for EVERY path length and
lies in [0, 1] -/
theorem C04_distance_rounded (R : Rounding) (d : Option ℕ) :
    ∃ v : RVal R, distanceSim d = some v ∧ 0 ≤ v.v ∧ v.v ≤ 1 :=
  distanceSim_defined_range d

/-- `Sim.score` at `RVal R` -/
noncomputable def coreR (R : Rounding) (alg : Alg) (k : Kind) (ic : ℕ → RVal R) (d : Option ℕ)
    (a b : Term) : Option (RVal R) :=
  match alg with
  | .graphIc => graphIc ic a b
  | .resnik => some (resnik ic a b)
  | .lin => lin ic a b
  | .jc => jc ic a b
  | .relevance => relevance ic a b
  | .infoCoef => infoCoef ic a b
  | .distance => distanceSim d
  | .mutation => mutation k a b

theorem coreR_eq (R : Rounding) : coreR R = score := by
  funext alg; cases alg <;> rfl

/-- whenever `<Builtins as Similarity>::calculate` returns, it returns `coreR` (the dispatch
adds panic checks only) -/
theorem C04_builtin_value_rounded (R : Rounding) (o : Onto) (alg : Alg) (k : Kind)
    (ic : ℕ → RVal R) (a b : Term) (r : Option (RVal R)) (h : builtin o alg k ic a b = .ok r) :
    ∃ d, (alg = .distance → o.distToTerm a b = .ok d) ∧ r = coreR R alg k ic d a b := by
  rw [coreR_eq]; exact builtin_value o alg k ic a b r h

/-- **never NaN / inf, never negative under rounding**: every algorithm divides only by non-zero
ROUNDED denominators and returns a value ≥ 0, for every pair of terms, kind and path length -/
theorem C04_defined_nonneg_rounded (R : Rounding) (alg : Alg) (k : Kind) (ic : ℕ → RVal R)
    (d : Option ℕ) (a b : Term) (hn : ∀ i, 0 ≤ (ic i).v) (hma : MonoR ic a) (hmb : MonoR ic b) :
    ∃ v, coreR R alg k ic d a b = some v ∧ 0 ≤ v.v := by
  rw [coreR_eq]; exact score_defined_nonneg alg k ic d a b hn hma hmb

/-- **argument order is irrelevant under rounding**, bit for bit: rounded `+` is commutative
(the only law used), the maximum fold and both ancestor vectors are the same for (a, b) and (b, a) -/
theorem C04_symm_rounded (R : Rounding) (alg : Alg) (k : Kind) (ic : ℕ → RVal R) (d : Option ℕ)
    (a b : Term) (ha : Sorted a.allParents) (hb : Sorted b.allParents)
    (hka : Sorted (a.ann k)) (hkb : Sorted (b.ann k)) :
    coreR R alg k ic d a b = coreR R alg k ic d b a := by
  rw [coreR_eq]; exact score_symm RNum.add_comm alg k ic d a b ha hb hka hkb

/-- a term compared with itself scores exactly 1 (`rnd 1 = 1`; Distance: `rnd (1 / rnd (0 + 1))`) -/
theorem C04_self_rounded (R : Rounding) (k : Kind) (ic : ℕ → RVal R) (a : Term) :
    coreR R .graphIc k ic none a a = some ⟨1⟩ ∧ coreR R .jc k ic none a a = some ⟨1⟩ ∧
    coreR R .distance k ic (some 0) a a = some ⟨1⟩ ∧ coreR R .mutation k ic none a a = some ⟨1⟩ := by
  have := score_self k ic a
  rwa [RVal.ext' NumR.ofNat_one_v, ← coreR_eq] at this

/-- argument order is irrelevant through the whole dispatch under rounding, including the panic
checks: if `S(a, b)` returns a value then `S(b, a)` returns the same value -/
theorem C04_symm_builtin_rounded (R : Rounding) (o : Onto) {rank : ℕ → ℕ} (wf : PathWF o rank)
    {i j : ℕ} (alg : Alg) (k : Kind) (ic : ℕ → RVal R) (a b : Term)
    (hai : o.get i = some a) (hbj : o.get j = some b)
    (ha : Sorted a.allParents) (hb : Sorted b.allParents)
    (hka : Sorted (a.ann k)) (hkb : Sorted (b.ann k)) (r : Option (RVal R))
    (h : builtin o alg k ic a b = .ok r) : builtin o alg k ic b a = .ok r := by
  rw [← builtin_symm RNum.add_comm o alg k ic a b (Onto.distToTerm_symm wf hai hbj) ha hb hka hkb]
  exact h

/-- `Builtins::new`: every documented name and alias selects its algorithm, anything else fails -/
theorem C04_dispatch_names :
    algOfLower "graphic" = some .graphIc ∧ algOfLower "resnik" = some .resnik ∧
    algOfLower "distance" = some .distance ∧ algOfLower "dist" = some .distance ∧
    algOfLower "informationcoefficient" = some .infoCoef ∧ algOfLower "ic" = some .infoCoef ∧
    algOfLower "jc" = some .jc ∧ algOfLower "jc2" = some .jc ∧ algOfLower "lin" = some .lin ∧
    algOfLower "relevance" = some .relevance ∧ algOfLower "rel" = some .relevance ∧
    algOfLower "mutation" = some .mutation ∧ algOfLower "mut" = some .mutation ∧
    (∀ s, s ∉ ["graphic", "resnik", "distance", "dist", "informationcoefficient", "ic", "jc", "jc2",
      "lin", "relevance", "rel", "mutation", "mut"] → algOfLower s = none) := by
  refine ⟨by simp [algOfLower], by simp [algOfLower], by simp [algOfLower], by simp [algOfLower],
    by simp [algOfLower], by simp [algOfLower], by simp [algOfLower], by simp [algOfLower],
    by simp [algOfLower], by simp [algOfLower], by simp [algOfLower], by simp [algOfLower],
    by simp [algOfLower], ?_⟩
  intro s hs
  simp only [List.mem_cons, List.not_mem_nil, or_false, not_or] at hs
  simp [algOfLower, hs]

/-! ### non-vacuity: the hypotheses hold on a concrete ontology fragment with non-trivial values -/

/-- a diamond `4 → {2,3} → 1`, ic increasing downwards -/
noncomputable def exIc : ℕ → ℝ := fun i => if i = 1 then 0 else if i = 4 then 2 else 1
def exA : Term := { id := 2, name := [], allParents := [1], genes := [7, 9] }
def exB : Term := { id := 4, name := [], allParents := [1, 2, 3], genes := [9] }

theorem exIc_hyps : (∀ i, 0 ≤ exIc i) ∧ Mono exIc exA ∧ Mono exIc exB := by
  refine ⟨?_, ?_, ?_⟩
  · intro i; unfold exIc; split_ifs <;> norm_num
  · intro _ c hc
    simp only [exA, List.mem_singleton] at hc
    subst hc; norm_num [exIc, exA]
  · intro _ c hc
    simp only [exB, List.mem_cons, List.not_mem_nil, or_false] at hc
    rcases hc with rfl | rfl | rfl <;> norm_num [exIc, exB]

example : (∀ i, 0 ≤ exIc i) ∧ Mono exIc exA ∧ Mono exIc exB ∧
    Sorted exA.allParents ∧ Sorted exB.allParents ∧ Sorted (exA.ann .gene) ∧ Sorted (exB.ann .gene) :=
  ⟨exIc_hyps.1, exIc_hyps.2.1, exIc_hyps.2.2, by decide, by decide, by decide, by decide⟩

/-- … and the scores there are the expected non-trivial numbers: Resnik(2,4) = ic 2 = 1,
Lin = 2·1/(1+2), JC = 1/(1+2−2+1), Mutation = 1/2 -/
example : resnik exIc exA exB = 1 ∧ lin exIc exA exB = some (2 / 3) ∧
    jc exIc exA exB = some (1 / 2) ∧ (mutation .gene exA exB : Option ℝ) = some (1 / 2) := by
  have hc : exA.allCommonAncestorIds exB = [1, 2] := by decide
  have hr : resnik exIc exA exB = 1 := by
    simp [resnik, hc, maxGo, exIc]
  refine ⟨hr, ?_, ?_, ?_⟩
  · rw [C04_formula_lin, hr]; norm_num [exIc, exA, exB]
  · unfold jc jcDenom; rw [hr]; norm_num [exIc, exA, exB, div?_eq]
  · rw [C04_formula_mutation]
    have h1 : bitor (exA.ann .gene) (exB.ann .gene) = [7, 9] := by decide
    have h2 : bitand (exA.ann .gene) (exB.ann .gene) = [9] := by decide
    rw [h1, h2]; norm_num [exA, exB]; decide

/-- the same table as rounded values (0, 1, 2 are representable in every regime) -/
noncomputable def exIcR (R : Rounding) : ℕ → RVal R := fun i => ⟨exIc i⟩

/-- the hypotheses of the `_rounded` theorems hold for the same fragment in EVERY rounding regime,
in particular in the inexact `Rounding.grid`; there Jiang-Conrath of the two terms is defined and
lies in [0, 1] (next example) -/
theorem C04_rounded_hypotheses_satisfiable (R : Rounding) :
    (∀ i, 0 ≤ (exIcR R i).v) ∧ MonoR (exIcR R) exA ∧ MonoR (exIcR R) exB :=
  -- `(exIcR R i).v` is `exIc i` by definition
  exIc_hyps

example : ∃ v : RVal Rounding.grid, coreR Rounding.grid .jc .gene (exIcR _) none exA exB = some v ∧
    0 ≤ v.v :=
  C04_defined_nonneg_rounded Rounding.grid .jc .gene (exIcR _) none exA exB
    (C04_rounded_hypotheses_satisfiable _).1 (C04_rounded_hypotheses_satisfiable _).2.1
    (C04_rounded_hypotheses_satisfiable _).2.2

end Hpo.C04
