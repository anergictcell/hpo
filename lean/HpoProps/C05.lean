import HpoProofs.Combine
import HpoProofs.CombineFast
/-!
# C05 — set similarity = funSimAvg / funSimMax / BMA of the pairwise matrix

The similarity of two term sets is the documented combination of the row and column maxima of the |A| × |B|
matrix of pairwise similarities, for all set sizes, 0 if a set is empty; it does not depend on the argument order
when the term similarity is symmetric, and the caching adaptor never changes a result.
Property theorems only (helper lemmas: `HpoProofs/Matrix.lean`, `HpoProofs/Combine.lean`,
`HpoProofs/CombineFast.lean`), about `HpoModel/Matrix.lean` and `HpoModel/Combine.lean` (the model of `src/matrix.rs`,
`SimilarityCombiner`, `StandardCombiner`, `GroupSimilarity`, `CachedSimilarity`), instantiated at
`ℝ` (a linear ordered field; checked division).  A term similarity is an ARBITRARY function
`sim : ℕ → ℕ → ℝ` of the two term ids (asymmetric, user-supplied); sets are id vectors `A`, `B`
of ANY sizes (the only bound is the code's own `usize_to_f32` guard `≤ 65535`, beyond which the
code panics and the model says so).

PARTIAL (see `lib/propmeta.py`): the closed forms are over ℝ; the f32 VALUE of the sums and
quotients is covered by the correspondence check only (dyadic inputs, identical operation order).
Definedness, sign, range and argument-order symmetry hold for every rounding regime `R : Rounding` as well
(`HpoProofs/Rounded.lean` says what is assumed: monotone, exact on the integers up to 2^24, positive from 2^-126
on; no nearest-ness, no error bound; every correctly-rounding arithmetic without overflow is one): `C05_*_rounded`,
proved in `HpoProofs/Combine.lean` once, for `ℝ` and every `RVal R` together, or for every numeric instance where
no order law is needed.  Non-finite scores: `C05_fmax_nan`,
`C05_symm_any_arith`, `C05_cached_transparent_any_arith` (every numeric instance, NaN included).
-/
namespace Hpo.C05
open Hpo.Matrix Hpo.Combine Hpo.NumReal

/-! ### the matrix iterators -/

/-- index law for every shape `r × c` (also non-square, also `r = 0` or `c = 0`) and any element
type: `rows()` yields `r` rows of `c` elements, `cols()` yields `c` columns of `r` elements, and
`rows[i][j] = cols[j][i] = data[i*c + j]` -/
theorem C05_rows_cols {F : Type} (r c : ℕ) (data : List F) (h : data.length = r * c) :
    ∃ rows, rowList ⟨r, c, data⟩ = some rows ∧
      (0 < c → rows.length = r) ∧ (∀ row ∈ rows, row.length = c) ∧
      (colList ⟨r, c, data⟩).length = c ∧ (∀ col ∈ colList ⟨r, c, data⟩, col.length = r) ∧
      ∀ i j, i < r → j < c →
        (data[i * c + j]?).isSome = true ∧
        (rows[i]?).bind (·[j]?) = data[i * c + j]? ∧
        ((colList ⟨r, c, data⟩)[j]?).bind (·[i]?) = data[i * c + j]? := by
  rcases Nat.eq_zero_or_pos c with rfl | hc
  · refine ⟨[], rowList_zero_cols r data, by simp, by simp, by simp [colList, colsGo],
      by simp [colList, colsGo], ?_⟩
    intro i j _ hj; exact absurd hj (Nat.not_lt_zero j)
  · refine ⟨_, rowList_eq r c data h hc, by simp, ?_, by simp [colList_eq], ?_, ?_⟩
    · exact List.forall_mem_map.2 fun i hi => length_slice h (List.mem_range.1 hi)
    · rw [colList_eq]
      exact List.forall_mem_map.2 fun j hj => length_stepGo h (List.mem_range.1 hj)
    · intro i j hi hj
      refine ⟨by rw [List.getElem?_eq_getElem (index_lt h hi hj)]; rfl, ?_, ?_⟩
      · rw [List.getElem?_map, List.getElem?_range hi, Option.map_some, Option.bind_some,
          List.getElem?_take, if_pos hj, List.getElem?_drop]
      · rw [colList_eq, List.getElem?_map, List.getElem?_range hj, Nat.add_comm]
        exact stepGo_getElem? c hc data j i

/-- the maximum the code computes for a row/column (`reduce(|a, b| if a > b { a } else { b })`)
is the greatest element. `lmax` is `foldl max`, the form in which the closed forms below are written; the
comparison fold of the code at any numeric instance is `gmax` (`C05_maxima_rounded`), and `lmax = gmax` at `ℝ`. -/
theorem C05_maxima (l : List ℝ) (h : l ≠ []) :
    reduceMax l = some (lmax l) ∧ lmax l ∈ l ∧ ∀ x ∈ l, x ≤ lmax l :=
  lmax_eq_gmax ▸ ⟨reduceMax_gmax l h, gmax_isGreatest l h⟩

/-! ### the three combiners on the pairwise matrix -/

/-- row maximum: for `a ∈ A` the best match in `B` (asymmetric `sim`: first argument from `A`, second from `B`) -/
noncomputable def rowMax (sim : ℕ → ℕ → ℝ) (B : List ℕ) (a : ℕ) : ℝ := lmax (B.map (sim a))
/-- column maximum: for `b ∈ B` the best match in `A` -/
noncomputable def colMax (sim : ℕ → ℕ → ℝ) (A : List ℕ) (b : ℕ) : ℝ := lmax (A.map fun a => sim a b)

/-- funSimAvg = mean of (mean of the row maxima, mean of the column maxima) -/
theorem C05_funSimAvg (sim : ℕ → ℕ → ℝ) (A B : List ℕ) (hA : A ≠ []) (hB : B ≠ [])
    (hA16 : A.length ≤ 65535) (hB16 : B.length ≤ 65535) :
    groupSimilarity .funSimAvg sim A B = .ok (some
      (((A.map (rowMax sim B)).sum / A.length + (B.map (colMax sim A)).sum / B.length) / 2)) := by
  rw [groupSimilarity_eq .funSimAvg sim A B hA hB hA16 hB16]
  simp only [combineWith]
  rw [funSimAvg_eq _ _ _ _ (List.length_pos_of_ne_nil hA).ne'
    (List.length_pos_of_ne_nil hB).ne']
  rfl

/-- funSimMax = the larger of the two means -/
theorem C05_funSimMax (sim : ℕ → ℕ → ℝ) (A B : List ℕ) (hA : A ≠ []) (hB : B ≠ [])
    (hA16 : A.length ≤ 65535) (hB16 : B.length ≤ 65535) :
    groupSimilarity .funSimMax sim A B = .ok (some
      (max ((A.map (rowMax sim B)).sum / A.length) ((B.map (colMax sim A)).sum / B.length))) := by
  rw [groupSimilarity_eq .funSimMax sim A B hA hB hA16 hB16]
  simp only [combineWith]
  rw [funSimMax_eq _ _ _ _ (List.length_pos_of_ne_nil hA).ne'
    (List.length_pos_of_ne_nil hB).ne']
  rfl

/-- BMA = (sum of the row maxima + sum of the column maxima) / (|A| + |B|) -/
theorem C05_bma (sim : ℕ → ℕ → ℝ) (A B : List ℕ) (hA : A ≠ []) (hB : B ≠ [])
    (hA16 : A.length ≤ 65535) (hB16 : B.length ≤ 65535) :
    groupSimilarity .bma sim A B = .ok (some
      (((A.map (rowMax sim B)).sum + (B.map (colMax sim A)).sum) / ((A.length : ℝ) + B.length))) := by
  rw [groupSimilarity_eq .bma sim A B hA hB hA16 hB16]
  simp only [combineWith]
  rw [bma_eq _ _ _ _ (List.length_pos_of_ne_nil hA).ne']
  rfl

/-- no panic and no zero denominator for non-empty sets (within the `u16` guard) -/
theorem C05_defined (cb : Combiner) (sim : ℕ → ℕ → ℝ) (A B : List ℕ) (hA : A ≠ []) (hB : B ≠ [])
    (hA16 : A.length ≤ 65535) (hB16 : B.length ≤ 65535) :
    ∃ v, groupSimilarity cb sim A B = .ok (some v) :=
  (groupSimilarity_defined_range cb sim A B hA hB hA16 hB16).imp fun _ h => h.1

/-- 0 if either set is empty -/
theorem C05_empty (cb : Combiner) (sim : ℕ → ℕ → ℝ) (A B : List ℕ) (h : A = [] ∨ B = []) :
    groupSimilarity cb sim A B = .ok (some 0) := by
  rw [groupSimilarity_empty cb sim A B h, ofNat_eq, Nat.cast_zero]

/-- `SimilarityCombiner::calculate` on a hand-built `r × c` matrix: the same combination of the
maxima of the rows `data[i*c .. i*c+c)` and of the columns `data[j], data[j+c], …` (whose
elements are given by `C05_rows_cols`); 0 for a matrix without data -/
theorem C05_calculate_matrix (cb : Combiner) (r c : ℕ) (data : List ℝ) (h : data.length = r * c)
    (hr16 : r ≤ 65535) (hc16 : c ≤ 65535) :
    calculate cb ⟨r, c, data⟩ =
      if data = [] then .ok (some 0)
      else .ok (combineWith cb r c
        ((List.range r).map fun i => lmax ((data.drop (i * c)).take c))
        ((List.range c).map fun j => lmax (stepGo c j data))) := by
  rw [calculate_eq cb r c data h hr16 hc16, lmax_eq_gmax, ofNat_eq, Nat.cast_zero]

/-- with a symmetric term similarity the set similarity does not depend on the argument order
(the matrix is transposed: rows and columns exchange their roles) -/
theorem C05_symm (cb : Combiner) (sim : ℕ → ℕ → ℝ) (hs : ∀ x y, sim x y = sim y x) (A B : List ℕ) :
    groupSimilarity cb sim A B = groupSimilarity cb sim B A :=
  groupSimilarity_symm add_comm fmax_comm cb sim hs A B

/-! ### the caching adaptor -/

/-- wrapping the term similarity in `CachedSimilarity` never changes a result: for EVERY sequence
of set-similarity queries through one cache (started empty, or in any state that only holds values
of `sim`), each answer equals the answer of the bare similarity -/
theorem C05_cached_transparent (cb : Combiner) (sim : ℕ → ℕ → ℝ)
    (qs : List (List ℕ × List ℕ)) (memo : Memo ℝ) (h : MemoOK sim memo) :
    runCached cb sim qs memo = runPlain cb sim qs :=
  runCached_eq cb sim qs memo h

/-- the case the library offers: `CachedSimilarity::new` starts with the empty cache -/
theorem C05_cached_transparent_fresh (cb : Combiner) (sim : ℕ → ℕ → ℝ)
    (qs : List (List ℕ × List ℕ)) : runCached cb sim qs [] = runPlain cb sim qs :=
  C05_cached_transparent cb sim qs [] (memoOK_nil sim)

/-! ### the definedness / sign / range / symmetry clauses for every rounding regime `R : Rounding`

`R : Rounding`, `RVal R` and what remains trusted: `HpoProofs/Rounded.lean`.  Every partial sum,
every quotient and the final combination is rounded; the row / column maxima only compare and are
therefore exact.  `sim : ℕ → ℕ → RVal R` is an arbitrary table. -/

/-- the maximum the code computes for a row / column is the greatest element under every
rounding (comparisons are exact) -/
theorem C05_maxima_rounded (R : Rounding) (l : List (RVal R)) (h : l ≠ []) :
    reduceMax l = some (gmax l) ∧ gmax l ∈ l ∧ ∀ x ∈ l, x.v ≤ (gmax l).v :=
  ⟨reduceMax_gmax l h, gmax_isGreatest l h⟩

/-- **no panic, no zero denominator, sign and range under rounding**: for non-empty sets within
the `u16` guard all three combiners return a value; it is ≥ 0 when the table is, and ≤ 1 when the
table is (the rounded partial sums of `n` numbers ≤ 1 stay ≤ `n`, the rounded denominators
`rnd n`, `rnd 2`, `rnd (rnd r + rnd c)` are exact and ≥ 1) -/
theorem C05_defined_range_rounded (R : Rounding) (cb : Combiner) (sim : ℕ → ℕ → RVal R)
    (A B : List ℕ) (hA : A ≠ []) (hB : B ≠ []) (hA16 : A.length ≤ 65535) (hB16 : B.length ≤ 65535) :
    ∃ v : RVal R, groupSimilarity cb sim A B = .ok (some v) ∧
      ((∀ x y, 0 ≤ (sim x y).v) → 0 ≤ v.v) ∧ ((∀ x y, (sim x y).v ≤ 1) → v.v ≤ 1) :=
  groupSimilarity_defined_range cb sim A B hA hB hA16 hB16

/-- … and exactly 0 under rounding: the literal `0.0` is returned, `rnd 0 = 0` -/
theorem C05_empty_rounded (R : Rounding) (cb : Combiner) (sim : ℕ → ℕ → RVal R) (A B : List ℕ)
    (h : A = [] ∨ B = []) : groupSimilarity cb sim A B = .ok (some ⟨0⟩) := by
  rw [groupSimilarity_empty cb sim A B h, RVal.ext' NumR.ofNat_zero_v]

/-- **argument order under rounding**: with a symmetric table the set similarity is the same for
(A, B) and (B, A), bit for bit (rows and columns exchange their roles; rounded `+` is commutative) -/
theorem C05_symm_rounded (R : Rounding) (cb : Combiner) (sim : ℕ → ℕ → RVal R)
    (hs : ∀ x y, sim x y = sim y x) (A B : List ℕ) :
    groupSimilarity cb sim A B = groupSimilarity cb sim B A :=
  groupSimilarity_symm RNum.add_comm fmax_comm cb sim hs A B

/-- the caching adaptor is transparent under rounding as well (it stores and returns values; no
arithmetic) -/
theorem C05_cached_transparent_rounded (R : Rounding) (cb : Combiner) (sim : ℕ → ℕ → RVal R)
    (qs : List (List ℕ × List ℕ)) : runCached cb sim qs [] = runPlain cb sim qs :=
  runCached_eq cb sim qs [] (memoOK_nil sim)

/-- non-vacuity: the exact arithmetic is a `Rounding`; a symmetric table with values in [0, 1] -/
example : ∃ sim : ℕ → ℕ → RVal Rounding.exact, (∀ x y, sim x y = sim y x) ∧
    (∀ x y, 0 ≤ (sim x y).v) ∧ (∀ x y, (sim x y).v ≤ 1) ∧ sim 1 2 ≠ sim 1 1 := by
  refine ⟨fun x y => ⟨if x = y then 1 else 1 / 2⟩, ?_, ?_, ?_, ?_⟩
  · intro x y; simp only [eq_comm]
  · intro x y; dsimp only; split <;> norm_num
  · intro x y; dsimp only; split <;> norm_num
  · intro h
    have := congrArg RVal.v h
    norm_num at this

/-! ### non-finite scores: arithmetics WITH NaN values

`f32::max` ignores a NaN operand, the row / column maxima (`if a > b { a } else { b }`) do not: there
a NaN element wins or loses depending on its POSITION.  The model mirrors both (`fmax` tests
`Num.isNaN`, `maxGo` only compares).  The two clauses of the property that do not depend on the
values hold for every numeric instance, NaN or not: -/

/-- `fmax` is `f32::max`: a NaN operand is ignored; without NaN operands it is the comparison -/
theorem C05_fmax_nan {F : Type} [Num F] (a b : F) :
    (Num.isNaN a = true → fmax a b = b) ∧
    (Num.isNaN a = false → Num.isNaN b = true → fmax a b = a) ∧
    (Num.isNaN a = false → Num.isNaN b = false → fmax a b = if Num.lt a b then b else a) := by
  refine ⟨fun ha => if_pos ha, fun ha hb => ?_, fun ha hb => ?_⟩
  · rw [fmax, if_neg (Bool.eq_false_iff.1 ha), if_pos hb]
  · rw [fmax, if_neg (Bool.eq_false_iff.1 ha), if_neg (Bool.eq_false_iff.1 hb)]

/-- **argument order with NaN entries**: for EVERY numeric instance whose `+` and `f32::max` are
commutative (IEEE-754 `+` and `f32::max` are, up to the sign / payload of a NaN result and the sign
of a zero `max(+0, -0)`), a symmetric table gives the same result for `(A, B)` and `(B, A)`.  No
order law is assumed: the matrix of `(B, A)` is the transpose, so every row of the one is a column of
the other WITH THE SAME ELEMENT ORDER, and the position-dependent maxima are taken over identical
lists. -/
theorem C05_symm_any_arith {F : Type} [Num F] (hadd : ∀ a b : F, Num.add a b = Num.add b a)
    (hmax : ∀ a b : F, fmax a b = fmax b a) (cb : Combiner) (sim : ℕ → ℕ → F)
    (hs : ∀ x y, sim x y = sim y x) (A B : List ℕ) :
    groupSimilarity cb sim A B = groupSimilarity cb sim B A :=
  groupSimilarity_symm hadd hmax cb sim hs A B

/-- **the caching adaptor with NaN entries**: transparent for every numeric instance (it stores and
returns values, `Float32` with its NaNs included: a cached NaN is returned, not recomputed) -/
theorem C05_cached_transparent_any_arith {F : Type} [Num F] (cb : Combiner) (sim : ℕ → ℕ → F)
    (qs : List (List ℕ × List ℕ)) : runCached cb sim qs [] = runPlain cb sim qs :=
  runCached_eq cb sim qs [] (memoOK_nil sim)

/-- non-vacuity of `C05_symm_any_arith` on an instance with a NaN, and the position dependence of
the maxima: with `sim 2 7 = NaN`, `sim 2 8 = 1/4` the row `[NaN, 1/4]` has maximum `1/4` (the
reversed row would have NaN), the column sums are NaN, and `funSimMax` is `1/4` in both orders
(the same ids and values as `setsim 0 j0 funsimmax 2 7,8` of the correspondence check) -/
example :
    (∀ a b : Option ℚ, @Num.add _ nanNum a b = @Num.add _ nanNum b a) ∧
    (∀ a b : Option ℚ, @fmax _ nanNum a b = @fmax _ nanNum b a) ∧
    @maxGo _ nanNum none [some (1 / 4)] = some (1 / 4) ∧
    @maxGo _ nanNum (some (1 / 4)) [none] = none ∧
    @groupSimilarity _ nanNum .funSimMax
      (fun a b => if a + b = 9 then none else some (1 / 4)) [2] [7, 8] = .ok (some (some (1 / 4))) ∧
    @groupSimilarity _ nanNum .funSimMax
      (fun a b => if a + b = 9 then none else some (1 / 4)) [7, 8] [2] = .ok (some (some (1 / 4))) := by
  have hadd : ∀ a b : Option ℚ, @Num.add _ nanNum a b = @Num.add _ nanNum b a := by
    intro a b
    cases a <;> cases b <;> simp [nanNum_add, add_comm]
  have hmax : ∀ a b : Option ℚ, @fmax _ nanNum a b = @fmax _ nanNum b a := by
    intro a b
    cases a with
    | none => cases b <;> simp [fmax, nanNum_isNaN]
    | some x =>
      cases b with
      | none => simp [fmax, nanNum_isNaN]
      | some y =>
        simp only [fmax, nanNum_isNaN, nanNum_lt_some, Option.isNone_some, Bool.false_eq_true,
          if_false, decide_eq_true_eq]
        rcases lt_trichotomy x y with h | h | h
        · simp [h, not_lt.2 h.le]
        · simp [h]
        · simp [h, not_lt.2 h.le]
  have h : @groupSimilarity _ nanNum .funSimMax
      (fun a b => if a + b = 9 then none else some (1 / 4)) [2] [7, 8] = .ok (some (some (1 / 4))) := by
    rw [@groupSimilarity_eq_gmax _ nanNum _ _ _ _ (List.cons_ne_nil _ _) (List.cons_ne_nil _ _) (by decide)
      (by decide)]
    simp [combineWith, funSimMax, gmax, maxGo, Combine.sum, sumGo, fmax, nanNum_add, nanNum_lt_none_right,
      nanNum_isNaN, nanNum_ofNat, nanNum_div?]
  refine ⟨hadd, hmax, ?_, ?_, h, ?_⟩
  · simp [maxGo, nanNum_lt_none_right]
  · simp [maxGo, nanNum_lt_none_left]
  · rw [← @C05_symm_any_arith _ nanNum hadd hmax _ _ (fun x y => by rw [Nat.add_comm])]
    exact h

/-! ### a driver fast path (for the correspondence check only): one-row matrices at the u16 limit -/

/-- The closed form the driver evaluates for one-row matrices with tens of thousands of columns
(the row / column loops of the model are quadratic there) IS `SimilarityCombiner::calculate` of the
model on the `1 × n` matrix, for every numeric instance, the documented panic beyond 65 535 columns
included. -/
theorem C05_one_row_closed_form {F : Type} [Num F] (cb : Combine.Combiner) (data : List F) :
    Combine.calculateOneRow cb data = Combine.calculate cb { rows := 1, cols := data.length, data := data } :=
  Combine.calculateOneRow_eq cb data

/-! ### non-vacuity: a 2 × 3 asymmetric instance with non-trivial values -/

/-- `sim a b = 10 a + b` on `A = [1,2]`, `B = [1,2,3]`: row maxima 13, 23; column maxima 21, 22, 23 -/
example : groupSimilarity .funSimAvg (fun a b => (10 * a + b : ℝ)) [1, 2] [1, 2, 3] = .ok (some 20) ∧
    groupSimilarity .funSimMax (fun a b => (10 * a + b : ℝ)) [1, 2] [1, 2, 3] = .ok (some 22) ∧
    groupSimilarity .bma (fun a b => (10 * a + b : ℝ)) [1, 2] [1, 2, 3] = .ok (some (102 / 5)) := by
  have hr : ([1, 2].map (rowMax (fun a b => (10 * a + b : ℝ)) [1, 2, 3])).sum = 36 := by
    simp only [rowMax, lmax, List.map_cons, List.map_nil, List.foldl_cons, List.foldl_nil]
    norm_num
  have hc : ([1, 2, 3].map (colMax (fun a b => (10 * a + b : ℝ)) [1, 2])).sum = 66 := by
    simp only [colMax, lmax, List.map_cons, List.map_nil, List.foldl_cons, List.foldl_nil]
    norm_num
  have hA : ([1, 2] : List ℕ) ≠ [] := List.cons_ne_nil _ _
  have hB : ([1, 2, 3] : List ℕ) ≠ [] := List.cons_ne_nil _ _
  have hA16 : ([1, 2] : List ℕ).length ≤ 65535 := by decide
  have hB16 : ([1, 2, 3] : List ℕ).length ≤ 65535 := by decide
  have lA : (([1, 2] : List ℕ).length : ℝ) = 2 := by norm_num
  have lB : (([1, 2, 3] : List ℕ).length : ℝ) = 3 := by norm_num
  refine ⟨?_, ?_, ?_⟩
  · rw [C05_funSimAvg _ _ _ hA hB hA16 hB16, hr, hc, lA, lB]
    norm_num
  · rw [C05_funSimMax _ _ _ hA hB hA16 hB16, hr, hc, lA, lB]
    norm_num
  · rw [C05_bma _ _ _ hA hB hA16 hB16, hr, hc, lA, lB]
    norm_num

end Hpo.C05
