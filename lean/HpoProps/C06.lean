import HpoProofs.Hypergeom
import HpoProofs.Enrich
import HpoProofs.HypergeomFast
/-!
# C06 — enrichment reports exact hypergeometric tail probabilities and fold changes

Gene / OMIM / ORPHA enrichment of a sample against a background returns one record per annotation linked to a
sample term, with count `k`, p-value `P[X ≥ k]` for `X ~ Hypergeometric(N, K, n)` and fold enrichment
`(k/n)/(K/N)`; p-values lie in `[0,1]` and never increase as `k` grows.
Property theorems only (model: `HpoModel/Hypergeom.lean`, mirroring `src/stats.rs`, `src/stats/hypergeom.rs`
and `src/stats/hypergeom/`; helper lemmas: `HpoProofs/Hypergeom.lean`, `HpoProofs/HypergeomFast.lean`,
`HpoProofs/Counts.lean`, `HpoProofs/Enrich.lean`).

The model's `enrichment kind bg sample` returns records `e : Enr` = (annotation id, `count` = k, `K`), the
`Enrichment` before its float evaluation; `N = bg.length`, `n = sample.length`. The two reported numbers are
read off a record as `pvalue N n e` (= `sfModel N e.K n (e.count - 1)`, the survival function as a fraction of
naturals `(num, den)`) and `foldEnrichment e.count n e.K N`: this is how `C06_enrichment` states them.
Probabilities are exact, over `ℚ` (`pmf`; `sfQ`: the model's `sfModel` read as a fraction).
All statements are for every `N, K, n, k` (no size bound).  What the `f64` code adds on top of the
exact value — `ln` of the factorial table / Lanczos `ln_gamma`, `exp`, the rounded sum and its clamp —
is outside these theorems (PARTIAL: covered by the tolerance of the correspondence check only).
-/
namespace Hpo.C06
open Hpo.Hypergeom Finset
open Hpo.Hypergeom.RatNum

/-- the model's binomial coefficients (Pascal recursion, and the multiplicative evaluation the
driver runs) are Mathlib's `Nat.choose` -/
theorem C06_choose (n k : ℕ) : choose n k = Nat.choose n k ∧ chooseMul n k = Nat.choose n k :=
  ⟨choose_eq n k, chooseMul_eq n k⟩

/-- Vandermonde: the probabilities of `Hypergeometric(N, K, n)` sum to one -/
theorem C06_pmf_sum (N K n : ℕ) (hK : K ≤ N) (hn : n ≤ N) :
    ∑ i ∈ range (n + 1), pmf N K n i = 1 :=
  pmf_sum N K n hK hn

/-- no mass outside `[max(0, n+K−N), min(K, n)]` (the code's `min()` and `max()`), none is negative -/
theorem C06_pmf_zero_outside (N K n i : ℕ) (hK : K ≤ N) :
    (i < hmin N K n ∨ hmax K n < i → pmf N K n i = 0) ∧ 0 ≤ pmf N K n i :=
  ⟨pmf_zero_outside N K n i hK, pmf_nonneg N K n i⟩

/-- the p-value `sf(k − 1)` — whichever of the three branches `x < min → 1`, `x ≥ max → 0`, summed
tail is taken — is exactly `P[X ≥ k]` -/
theorem C06_sf_is_tail (N K n k : ℕ) (hK : K ≤ N) (hn : n ≤ N) (hk : 0 < k) :
    sfQ N K n (k - 1) = ∑ i ∈ Icc k n, pmf N K n i := by
  rw [sfQ_eq_tail N K n _ hK hn, Nat.sub_add_cancel hk]; rfl

/-- p-values lie in `[0, 1]` -/
theorem C06_range (N K n k : ℕ) (hK : K ≤ N) (hn : n ≤ N) (hk : 0 < k) :
    0 ≤ sfQ N K n (k - 1) ∧ sfQ N K n (k - 1) ≤ 1 :=
  sfQ_range N K n (k - 1) hK hn

/-- p-values never increase as `k` grows with `N, K, n` fixed -/
theorem C06_antitone (N K n k k' : ℕ) (hK : K ≤ N) (hn : n ≤ N) (hk : 0 < k) (h : k ≤ k') :
    sfQ N K n (k' - 1) ≤ sfQ N K n (k - 1) :=
  sfQ_antitone N K n (k - 1) (k' - 1) hK hn (Nat.sub_le_sub_right h 1)

/-- fold enrichment `(k/n)/(K/N)`: every (checked) division is defined and the value is `k·N/(n·K)` -/
theorem C06_fold (k n K N : ℕ) (hk : 0 < k) (hkn : k ≤ n) (hkK : k ≤ K) (hKN : K ≤ N) :
    (foldEnrichment k n K N : Option ℚ) = some ((k * N : ℚ) / (n * K)) := by
  have hn : (n : ℚ) ≠ 0 := Nat.cast_ne_zero.2 (hk.trans_le hkn).ne'
  have hK' : (K : ℚ) ≠ 0 := Nat.cast_ne_zero.2 (hk.trans_le hkK).ne'
  have hN : (N : ℚ) ≠ 0 := Nat.cast_ne_zero.2 ((hk.trans_le hkK).trans_le hKN).ne'
  have hKN' : (K : ℚ) / N ≠ 0 := div_ne_zero hK' hN
  simp only [foldEnrichment, div?_rat, ofNat_rat, hn, hN, hKN', if_false]
  rw [div_div_div_eq]

/-- record set: for a duplicate-free sample drawn from the background (terms listing each
annotation once), the enrichment of any kind does not panic and returns exactly one record per
annotation linked to at least one sample term; its count `k` is the number of linked sample terms,
its `K` the number of linked background terms, and the parameters satisfy `0 < k ≤ min(K, n)`,
`K ≤ N`, `n ≤ N` (`N`/`n` = number of background/sample terms) -/
theorem C06_records (kind : Kind) (bg sample : List Term)
    (hsub : sample ⊆ bg) (hnd : sample.Nodup) (hann : ∀ t ∈ bg, (t.ann kind).Nodup) :
    ∃ recs, enrichment kind bg sample = .ok recs ∧
      (recs.map (·.id)).Nodup ∧
      (∀ r, r ∈ recs.map (·.id) ↔ ∃ t ∈ sample, r ∈ t.ann kind) ∧
      ∀ e ∈ recs,
        e.count = sample.countP (fun t => decide (e.id ∈ t.ann kind)) ∧
        e.K = bg.countP (fun t => decide (e.id ∈ t.ann kind)) ∧
        0 < e.count ∧ e.count ≤ e.K ∧ e.count ≤ sample.length ∧ e.K ≤ bg.length ∧
        sample.length ≤ bg.length := by
  have hsp : sample.Subperm bg := hnd.subperm hsub
  have hlen : sample.length ≤ bg.length := hsp.length_le
  have hannS : ∀ t ∈ sample, (t.ann kind).Nodup := fun t ht => hann t (hsub ht)
  have hbg : ∀ i, (∃ t ∈ sample, i ∈ t.ann kind) → getC (calculateCounts kind bg).2 i =
      some (bg.countP (fun t => decide (i ∈ t.ann kind))) := fun i ⟨t, ht, hr⟩ =>
    (mem_iff_getC _ (nodup_keys_counts kind bg) _ _).1
      ((mem_counts kind bg hann _ _).2 ⟨⟨t, hsub ht, hr⟩, rfl⟩)
  refine ⟨expected (calculateCounts kind bg).2 (calculateCounts kind sample).2,
    inner_eq _ _ _ _ hlen fun e he _ => ?_,
    (nodup_keys_counts kind sample).sublist (ids_expected_sublist _ _), fun r => ?_, fun e he => ?_⟩
  · exact ⟨_, hbg e.1 ((mem_counts kind sample hannS e.1 e.2).1 he).1, List.countP_le_length⟩
  · -- an id met in the sample is carried by a term of the sample, so its count is not 0
    simp only [mem_ids_expected, mem_counts kind sample hannS]
    exact ⟨fun ⟨c, h, _⟩ => h.1, fun h => ⟨_, ⟨h, rfl⟩,
      let ⟨t, ht, hr⟩ := h; Nat.ne_of_gt (List.countP_pos_iff.2 ⟨t, ht, decide_eq_true hr⟩)⟩⟩
  · obtain ⟨c, hc, hc0, hcount, hK⟩ := (mem_expected _ _ e).1 he
    obtain ⟨hi, rfl⟩ := (mem_counts kind sample hannS e.id c).1 hc
    rw [hbg e.id hi, Option.getD_some] at hK
    have hle := hsp.countP_le fun t => decide (e.id ∈ t.ann kind)
    rw [← hcount, ← hK] at hle
    refine ⟨hcount, hK, Nat.pos_of_ne_zero (hcount ▸ hc0), hle, ?_, ?_, hlen⟩
    · rw [hcount]; exact List.countP_le_length
    · rw [hK]; exact List.countP_le_length

/-- end to end: every reported record carries `P[X ≥ k]` for
`X ~ Hypergeometric(N = |background|, K = linked background terms, n = |sample|)`, a p-value in
`[0,1]`, and the fold enrichment `k·N/(n·K)` -/
theorem C06_enrichment (kind : Kind) (bg sample : List Term)
    (hsub : sample ⊆ bg) (hnd : sample.Nodup) (hann : ∀ t ∈ bg, (t.ann kind).Nodup) :
    ∃ recs, enrichment kind bg sample = .ok recs ∧ ∀ e ∈ recs,
      ((pvalue bg.length sample.length e).1 : ℚ) / (pvalue bg.length sample.length e).2
          = ∑ i ∈ Icc e.count sample.length, pmf bg.length e.K sample.length i ∧
      0 ≤ ((pvalue bg.length sample.length e).1 : ℚ) / (pvalue bg.length sample.length e).2 ∧
      ((pvalue bg.length sample.length e).1 : ℚ) / (pvalue bg.length sample.length e).2 ≤ 1 ∧
      (foldEnrichment e.count sample.length e.K bg.length : Option ℚ)
          = some ((e.count * bg.length : ℚ) / (sample.length * e.K)) := by
  obtain ⟨recs, hok, _, _, hrec⟩ := C06_records kind bg sample hsub hnd hann
  refine ⟨recs, hok, ?_⟩
  intro e he
  obtain ⟨_, _, hpos, hkK, hkn, hKN, hnN⟩ := hrec e he
  have hr := sfQ_range bg.length e.K sample.length (e.count - 1) hKN hnN
  exact ⟨C06_sf_is_tail _ _ _ _ hKN hnN hpos, hr.1, hr.2, C06_fold _ _ _ _ hpos hkn hkK hKN⟩

/-- The linear-time tail the driver runs (two running binomials updated multiplicatively, leading
zero terms skipped) is the model's tail, survival function and p-value — for all arguments. -/
theorem C06_fast_tail_is_model (N K n x cnt i : ℕ) (e : Enr) :
    tailNumFast K (N - K) n cnt i = tailNum K (N - K) n cnt i ∧
    sfModelFast N K n x = sfModel N K n x ∧
    pvalueFast N n e = pvalue N n e :=
  ⟨tailNumFast_eq K (N - K) n cnt i, sfModelFast_eq N K n x, pvalueFast_eq N n e⟩

/-! ### non-vacuity: the hypotheses are satisfiable on non-trivial instances -/

/-- `N = 10, K = 4, n = 5`: the three branches of `sf`, here as exact fractions -/
example : sfModel 10 4 5 1 = (186, 252) ∧ sfModel 10 4 5 4 = (0, 1) ∧ sfModel 10 8 5 2 = (1, 1) := by
  decide

example : (4 ≤ 10 ∧ 5 ≤ 10 ∧ 0 < 2 ∧ 2 ≤ 3) ∧ sfQ 10 4 5 (2 - 1) = 186 / 252 := by
  refine ⟨by decide, ?_⟩
  have : sfModel 10 4 5 1 = (186, 252) := by decide
  simp [sfQ, this]

private def t1 : Term := { id := 1, name := [], genes := [7, 9] }
private def t2 : Term := { id := 2, name := [], genes := [7] }
private def t3 : Term := { id := 3, name := [], genes := [9] }
private def t4 : Term := { id := 4, name := [] }

/-- a background of four terms and a sample of two of them satisfy the hypotheses of `C06_records`;
the model returns the two linked genes with `(k, K) = (2, 2)` and `(1, 2)` -/
example : ([t1, t2] ⊆ [t1, t2, t3, t4]) ∧ [t1, t2].Nodup ∧
    (∀ t ∈ [t1, t2, t3, t4], (t.ann .gene).Nodup) ∧
    enrichment .gene [t1, t2, t3, t4] [t1, t2]
      = .ok [{ id := 7, count := 2, K := 2 }, { id := 9, count := 1, K := 2 }] := by
  refine ⟨by decide, by decide, by decide, by decide⟩

end Hpo.C06
