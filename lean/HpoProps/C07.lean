import HpoProofs.LoadRun
import HpoProofs.TextRefine
import HpoProofs.ReachableSub
/-!
# C07 — binary serialisation round-trips

`from_bytes(as_bytes(o))` succeeds for every ontology the public constructors can produce and returns an
observationally identical ontology (names up to the documented 255-byte cut); `as_bytes` never writes what the
loader rejects.
Property theorems only (helper lemmas: `HpoProofs/Binary.lean`, `HpoProofs/BinaryLoad.lean`,
`HpoProofs/LoadRefine.lean`, `HpoProofs/LoadRun.lean`, `HpoProofs/ReachableSub.lean`) and at the end, also under
names `C07_…`, the instance lemmas of the counterexamples and examples (`C07_k2Onto_encodable`, `C07_rtOnto_*`,
`C07_foreign_*`).

Model: `HpoModel/Binary.lean`.  `encodeOnto o = encodeRaw 3 (factsOf o)` mirrors `Ontology::as_bytes`:
`factsOf o` are the records it writes (terms with name cut to ≤ 255 bytes at a character boundary,
obsolete flag, replacement; one parents record per term; genes with cut name; OMIM / ORPHA diseases),
`decodeBytes` mirrors `Ontology::from_bytes` (see `HpoProps/C08.lean`), `Onto.loadFacts 3` are its logical
steps on decoded records (`HpoModel/Load.lean`).

`EncOK o` (`HpoProofs/Binary.lean`): ids fit their fields (term ids < 10^7, record / parent / linked
ids < 2^32), fewer than 10^9 parents per term and terms per record, section payloads < 2^32 bytes,
release version (u16, u8, u8), a replacement id is not 0, disease names (u32 length field) < 10^8
bytes.  There is NO hypothesis on the lengths of term and gene names.

`Reachable o` (`HpoProofs/LoadRefine.lean`): the class of ontologies the property quantifies over,
as an explicit predicate — what the public constructors establish (C01, C02, C03, C15, C19): unique
term ids < 10^7; parents resolve; children = inverse of parents; ancestor groups = transitive closure
of parents, irreflexive; per kind unique record ids, a record id on a term iff the record is directly
annotated to the term or a descendant, direct terms resolve; all groups strictly ascending; stored
ic pairs = `icPair #records #linked` with counts that passed `InformationContent::calculate`; both
roots; categories / modifier = the default groups.  `C07_reachable_builder`: every ontology of the
Builder route is `Reachable`; `C07_reachable_roundtrip`: so is every reloaded one.

What is proved:
* byte level, for EVERY encodable ontology: whatever `as_bytes` writes is decoded to exactly the
  records it wrote, never rejected by the decoder, in any record order; name truncation is the longest
  valid prefix (`C07_bytes_*`, `C07_truncation_spec`);
* refinement, for every `Reachable` ontology: the builder steps of `from_bytes` on those records
  succeed and rebuild the ontology itself up to the documented name cut — literally
  `decodeBytes (encodeOnto o) = .ok (truncOnto o)` (`C07_roundtrip`), hence never rejected
  (`C07_never_rejected`), and with the records of every section in any order all lookups are the
  same (`C07_record_order`).
* the class: every public constructor lands in `Reachable` under its well-formedness hypotheses
  (`C07_reachable_constructors`): the Builder (`C07_reachable_builder`), `from_bytes` of any
  well-formed v1 / v2 / v3 file (`C07_reachable_from_bytes`), the two text loaders
  (`C07_reachable_text`), `sub_ontology` followed by the default groups
  (`C07_reachable_sub_ontology`), and the round trip itself (`C07_reachable_roundtrip`).

Not covered, each with its counterexample below: ontologies built without the default groups (categories and
modifier are not part of the format, K2), a replacement id `HP:0000000` (K3; excluded by `EncOK`). Slot 0 of the
arena is not stored either: the reload has the placeholder there (`truncOnto`), and `C07_roundtrip_identity`
assumes it. On a term with more than 65 535 parents the model is not run: there the code is compared with the
harness oracle only (DESIGN.md 8.6).
-/
namespace Hpo.C07
open Hpo.Binary Hpo.Proto

/-! ### name truncation (the repaired code) -/

/-- The written name is a prefix of the name (so it is valid UTF-8 and ends at a character
boundary), fits the u8 length field, is the LONGEST such prefix, and is the whole name whenever the
name has at most 255 bytes. -/
theorem C07_truncation_spec (cs : List Char) :
    truncName cs <+: cs ∧ (utf8 (truncName cs)).length ≤ 255 ∧
    (∀ p, p <+: cs → (utf8 p).length ≤ 255 → p <+: truncName cs) ∧
    ((utf8 cs).length ≤ 255 → truncName cs = cs) :=
  ⟨takeFit_prefix 255 cs, truncName_le cs, fun p hp hf => takeFit_maximal 255 cs p hp hf,
   takeFit_eq_self 255 cs⟩

/-- the written name bytes always decode again, to the truncated name -/
theorem C07_name_decodes (cs : List Char) : utf8Decode (utf8 (truncName cs)) = some (truncName cs) :=
  utf8_roundtrip _

/-! ### round trip, byte level: every encodable ontology -/

/-- Byte level of the round trip, for EVERY encodable ontology (no well-formedness hypothesis):
`as_bytes` produces a file that `from_bytes` recognises as v3 and decodes to exactly the records
written (terms: id, truncated name, obsolete, replacement; parents; genes; diseases; release
version), so the reloaded ontology is the one `from_bytes`'s builder steps make of these records.
The step from the records to the ontology is `C07_roundtrip` below. -/
theorem C07_bytes_roundtrip (o : Onto) (h : EncOK o) :
    version (encodeOnto o) = .ok (3, encBody 3 (factsOf o)) ∧
    decodeRaw 3 (encBody 3 (factsOf o)) = .ok (factsOf o) ∧
    decodeBytes (encodeOnto o) = Onto.loadFacts 3 (factsOf o) := by
  have := decode_encodeRaw 3 (factsOf o) (FileOK_factsOf o h)
  rwa [projFacts_factsOf] at this

/-- The whole pipeline (`as_bytes` → bytes → `from_bytes` with all its builder steps) for EVERY
encodable ontology with unique term ids (they are keys of the arena; no other well-formedness
hypothesis): whenever the reload succeeds, the reloaded ontology has the same release version and,
in the same order, the same terms with id, name (cut to the documented 255-byte limit), obsolete
flag and replacement. -/
theorem C07_roundtrip_terms (o o' : Onto) (h : EncOK o) (hnd : (o.terms.map (·.id)).Nodup)
    (hload : decodeBytes (encodeOnto o) = .ok o') :
    o'.version = o.version ∧
    o'.terms.map (fun t => (t.id, t.name, t.obsolete, t.replacement)) =
      o.terms.map (fun t => (t.id, truncName t.name, t.obsolete, t.replacement)) := by
  obtain ⟨hv, ht⟩ := decodeBytes_terms 3 (by decide) (factsOf o) (FileOK_factsOf o h)
    ((map_id_termFacts o.terms).symm ▸ hnd) o' hload
  exact ⟨hv, ht.trans (map_core_termFacts o.terms)⟩

/-- Serialisation never emits bytes that the DECODER rejects or panics on, for EVERY encodable
ontology: version detection, framing and every record decoder succeed (no `err`, no `panic`, no
`diverge`).  That the builder steps succeed as well is `C07_never_rejected` below. -/
theorem C07_bytes_accepted (o : Onto) (h : EncOK o) :
    ((version (encodeOnto o)).bind fun v => decodeRaw v.1 v.2).isOk = true := by
  obtain ⟨hv, hr, _⟩ := C07_bytes_roundtrip o h
  rw [hv, Res.bind_ok, hr]; rfl

/-- Hash-map iteration order, byte level, for EVERY encodable ontology: with the records of every
section written in any other order the file is still valid and decodes to exactly those records (in
that order).  That the reloaded ontologies are observationally equal is `C07_record_order` below. -/
theorem C07_bytes_record_order (o : Onto) (h : EncOK o) (g : RawFacts) (hp : FactsPerm (factsOf o) g) :
    decodeRaw 3 (encBody 3 g) = .ok (projFacts 3 g) ∧ FactsPerm (factsOf o) (projFacts 3 g) ∧
    decodeBytes (encodeRaw 3 g) = Onto.loadFacts 3 (projFacts 3 g) := by
  obtain ⟨_, hr, hb⟩ := decode_encodeRaw 3 g ((FileOK_factsOf o h).perm hp)
  refine ⟨hr, ?_, hb⟩
  have := projFacts_perm 3 hp
  rwa [projFacts_factsOf] at this

/-! ### the class `Reachable` -/

/-- **The class is inhabited by everything the Builder produces**: any history of `new_term` /
`add_parent` calls (failing calls included) with an acyclic result, `connect_all_terms`, any history of
`add_gene` / `add_*_disease` / `annotate_*` calls, `calculate_information_content`,
`build_with_defaults`. -/
theorem C07_reachable_builder (tops : List BOp) (o oc : Onto) (hrun : runB tops {} = some o)
    (hac : C01.Acyclic o) (hc : o.connectAll = .ok oc) (aops : List AOp) (r d : Onto)
    (hic : (runA aops oc).calcIc = .ok r) (hd : r.buildWithDefaults = .ok d) : Reachable d :=
  reachable_of_builder tops o oc hrun hac hc aops r d hic hd

/-- … and is closed under the round trip: the reloaded ontology is in the class again -/
theorem C07_reachable_roundtrip (o : Onto) (h : Reachable o) : Reachable (truncOnto o) :=
  reachable_truncOnto o h

/-- **`from_bytes` of ANY well-formed file** (format version 1, 2 or 3; `FileOK`: encodable;
`WFRecords (projFacts fv f)`, `HpoProofs/LoadRun.lean`: as far as the file carries them, term records
with the same id agree, the term and the listed parents of every parent record are terms of the file,
no is_a cycle, record ids distinct inside each of the gene / OMIM / ORPHA sections, every term listed
by a record is a term of the file, at most 65 535 records per section, `HP:0000001` and `HP:0000118`
are terms — no ontology is assumed to have written the file) succeeds, and the loaded ontology is
`Reachable`: the load is literally a checked Builder-API run over the records
(`C08_file_is_builder_run`).  Without these hypotheses `Reachable` is false for files that do load
(a repeated record id: `C08_duplicate_record_id_counterexample`; a parent id that is no term). -/
theorem C07_reachable_from_bytes (fv : Nat) (f : RawFacts) (h : FileOK fv f)
    (W : WFRecords (projFacts fv f)) :
    ∃ o, decodeBytes (encodeRaw fv f) = .ok o ∧ Reachable o := by
  obtain ⟨a, oc, r, d, B, hl⟩ := loadFacts_ok (projFacts fv f) (bareRecs_projFacts fv f) h.proj_small W
  exact ⟨_, (decodeBytes_encodeRaw h).trans hl, Text.reachable_setV B.reachable _⟩

/-- … in the form "whatever `from_bytes` returns for a well-formed file is `Reachable`" -/
theorem C07_reachable_from_bytes_ok (fv : Nat) (f : RawFacts) (h : FileOK fv f)
    (W : WFRecords (projFacts fv f)) (o : Onto) (hl : decodeBytes (encodeRaw fv f) = .ok o) :
    Reachable o := by
  obtain ⟨o', hl', hr⟩ := C07_reachable_from_bytes fv f h W
  rw [hl] at hl'; cases hl'; exact hr

/-- **The two text loaders** (`from_standard`, `from_standard_transitive`): for every rendering of
the three JAX files (`Rendering.Ok`: the lexical side conditions of C09) of well-formed facts
(`WFfacts`, `HpoProofs/TextRefine.lean`: term ids below 10^7, every `is_a` target and every annotated
term a `[Term]` stanza, no is_a cycle, at most 65 535 distinct genes / OMIM / ORPHA diseases, stanzas
for `HP:0000001` and `HP:0000118`) the load succeeds and the loaded ontology is `Reachable` (the load
is a Builder run, `C09_file_is_builder_run`; `C09_file_builder` adds the round trip). -/
theorem C07_reachable_text (tr : Bool) (R : Text.Rendering) (h : R.Ok)
    (W : Text.WFfacts R.terms R.grows R.drows) :
    ∃ o, Text.loadJax tr R.obo (R.gene tr) R.hpoa = .ok o ∧ Reachable o := by
  obtain ⟨a, oc, r, d, B, hl⟩ :=
    Text.buildFromFacts_ok R.terms R.version R.grows R.drows (Text.itemsTerms_bare _) W
  exact ⟨_, (Text.loadJax_rendering tr R h).trans hl, Text.reachable_setV B.reachable _⟩

/-- a `Reachable` ontology satisfies the hypothesis `PathWF` that the `sub_ontology` theorems (C14) put
on the SOURCE ontology (rank = number of ancestors) -/
theorem C07_reachable_pathWF (o : Onto) (h : Reachable o) :
    PathWF o (fun j => (allOf o.terms j).length) := h.pathWF

/-- **`sub_ontology`.** `Ontology::sub_ontology` ends in `build_minimal`: its result has EMPTY
categories and modifier, so — like every minimal-built ontology, `C07_minimal_categories_counterexample`
(K2) — it is not in the class by itself; the property is about ontologies built with defaults.  With
the default groups set on it (`set_default_categories` + `set_default_modifier`, i.e. the model's
`buildWithDefaults`, which needs `HP:0000001` and `HP:0000118` among the retained terms) the result of
a successful `sub_ontology` call on a well-formed source (`PathWF`; every `Reachable` source is:
`C07_reachable_pathWF`) with leaves that are terms of the source IS `Reachable` — the call is a Builder
run (`C14_is_builder_run`). -/
theorem C07_reachable_sub_ontology (o : Onto) (rank : Nat → Nat) (wf : PathWF o rank) (root : Term)
    (leaves : List Term) (hl : ∀ l ∈ leaves, o.get l.id = some l) (o' d : Onto)
    (h : o.subOntology root leaves = .ok o') (hd : o'.buildWithDefaults = .ok d) : Reachable d :=
  reachable_subOntology wf hl h hd

/-- … hence the class is closed under `sub_ontology` + default groups -/
theorem C07_reachable_sub_ontology_closed (o : Onto) (hr : Reachable o) (root : Term)
    (leaves : List Term) (hl : ∀ l ∈ leaves, o.get l.id = some l) (o' d : Onto)
    (h : o.subOntology root leaves = .ok o') (hd : o'.buildWithDefaults = .ok d) : Reachable d :=
  reachable_subOntology hr.pathWF hl h hd

/-- **Every public constructor lands in `Reachable`** under its well-formedness hypotheses — the
five theorems above in one statement: (1) the Builder (`set_hpo_version` changes nothing:
`reachable_setV`), (2) `from_bytes` / `from_binary`, (3) `from_standard` / `from_standard_transitive`,
(4) `sub_ontology` followed by the default groups, (5) the round trip `from_bytes(as_bytes(o))`.
Why the hypotheses cannot be dropped is said at (2) and (4); `build_minimal` and
`Ontology::default()` leave categories / modifier empty as `sub_ontology` itself does (K2) and are
outside the property ("built with defaults"). -/
theorem C07_reachable_constructors :
    (∀ (tops : List BOp) (o oc : Onto) (aops : List AOp) (r d : Onto), runB tops {} = some o →
      C01.Acyclic o → o.connectAll = .ok oc → (runA aops oc).calcIc = .ok r →
      r.buildWithDefaults = .ok d → Reachable d) ∧
    (∀ (fv : Nat) (f : RawFacts), FileOK fv f → WFRecords (projFacts fv f) →
      ∃ o, decodeBytes (encodeRaw fv f) = .ok o ∧ Reachable o) ∧
    (∀ (tr : Bool) (R : Text.Rendering), R.Ok → Text.WFfacts R.terms R.grows R.drows →
      ∃ o, Text.loadJax tr R.obo (R.gene tr) R.hpoa = .ok o ∧ Reachable o) ∧
    (∀ (o : Onto) (rank : Nat → Nat) (root : Term) (leaves : List Term) (o' d : Onto), PathWF o rank →
      (∀ l ∈ leaves, o.get l.id = some l) → o.subOntology root leaves = .ok o' →
      o'.buildWithDefaults = .ok d → Reachable d) ∧
    (∀ o, Reachable o → Reachable (truncOnto o)) :=
  ⟨fun tops o oc aops r d h1 h2 h3 h4 h5 => reachable_of_builder tops o oc h1 h2 h3 aops r d h4 h5,
   C07_reachable_from_bytes, C07_reachable_text,
   fun _ _ _ _ _ _ wf hl h hd => reachable_subOntology wf hl h hd,
   reachable_truncOnto⟩

/-! ### the refinement step: same records ⇒ same ontology -/

/-- The builder steps of `from_bytes` succeed on the records `as_bytes` writes: no error (both roots
are there, every linked term exists, the ic counts fit), no panic (every id is below 10^7 and
resolves), no divergence (acyclic). -/
theorem C07_load_total (o : Onto) (h : Reachable o) :
    ∃ o', Onto.loadFacts 3 (factsOf o) = .ok o' :=
  ⟨_, loadFacts_factsOf o h⟩

/-- … and rebuild the ontology itself with names cut: the result is `truncOnto o` LITERALLY (same
slots in the same order, same record lists, every field of every term and record), in particular
every term lookup, every record lookup, release version, categories and modifier agree. -/
theorem C07_load_refines (o o' : Onto) (h : Reachable o)
    (hl : Onto.loadFacts 3 (factsOf o) = .ok o') :
    o' = truncOnto o ∧ o'.version = o.version ∧
    (∀ j, getT o'.terms j = (getT o.terms j).map truncTerm) ∧
    (∀ k r, getR (o'.recs k) r = (getR (o.recs k) r).map (truncRec k)) ∧
    o'.categories = o.categories ∧ o'.modifier = o.modifier := by
  rw [loadFacts_factsOf o h] at hl
  cases hl
  exact ⟨rfl, rfl, getT_truncOnto o, getR_truncOnto o, rfl, rfl⟩

/-- **Round trip.** For every `Reachable`, encodable ontology `from_bytes(as_bytes(o))` succeeds and
returns `o` with term and gene names cut to the longest prefix of ≤ 255 bytes that ends at a
character boundary — every observation equal (`ObsTrunc`: release version; per term id, name cut,
obsolete flag, replacement, parents, children, ancestors, linked genes / OMIM / ORPHA records, the
three ic pairs; per record id, name (genes: cut), direct terms; categories; modifier). -/
theorem C07_roundtrip (o : Onto) (hr : Reachable o) (he : EncOK o) :
    decodeBytes (encodeOnto o) = .ok (truncOnto o) ∧ ObsTrunc o (truncOnto o) := by
  rw [(C07_bytes_roundtrip o he).2.2]
  exact ⟨loadFacts_factsOf o hr, obsTrunc_truncOnto o⟩

/-- … and when no term or gene name exceeds 255 bytes (and slot 0 of the arena, which the format
does not store, holds the placeholder) the round trip is the identity -/
theorem C07_roundtrip_identity (o : Onto) (hr : Reachable o) (he : EncOK o)
    (hs : o.slot0 = placeholder) (ht : ∀ t ∈ o.terms, (utf8 t.name).length ≤ 255)
    (hg : ∀ r ∈ o.genes, (utf8 r.name).length ≤ 255) : decodeBytes (encodeOnto o) = .ok o := by
  rw [(C07_roundtrip o hr he).1, truncOnto_eq_self o hs ht hg]

/-- **Never rejected.** Serialisation of a `Reachable` ontology never yields bytes that
`from_bytes` rejects: the whole of `from_bytes` returns `Ok`. -/
theorem C07_never_rejected (o : Onto) (hr : Reachable o) (he : EncOK o) :
    (decodeBytes (encodeOnto o)).isOk = true := by
  rw [(C07_roundtrip o hr he).1]; rfl

/-- **Record order** (hash-map iteration order of the writer): with the records of every section in
any order the file loads, and every observation is that of `o` with names cut — hence any two such
files load to ontologies with equal lookups. -/
theorem C07_record_order (o : Onto) (hr : Reachable o) (he : EncOK o) (g : RawFacts)
    (hp : FactsPerm (factsOf o) g) :
    ∃ o', decodeBytes (encodeRaw 3 g) = .ok o' ∧ ObsTrunc o o' :=
  decodeBytes_refine o hr g ((FileOK_factsOf o he).perm hp) hp

/-- `C07_record_order` for two orders at once: both files load, and the two reloaded ontologies agree in every
lookup (both carry the cut names) -/
theorem C07_record_order_same (o : Onto) (hr : Reachable o) (he : EncOK o) (g1 g2 : RawFacts)
    (hp1 : FactsPerm (factsOf o) g1) (hp2 : FactsPerm (factsOf o) g2) :
    ∃ o1 o2, decodeBytes (encodeRaw 3 g1) = .ok o1 ∧ decodeBytes (encodeRaw 3 g2) = .ok o2 ∧
      o1.version = o2.version ∧ (∀ j, getT o1.terms j = getT o2.terms j) ∧
      (∀ k r, getR (o1.recs k) r = getR (o2.recs k) r) ∧
      o1.categories = o2.categories ∧ o1.modifier = o2.modifier := by
  obtain ⟨o1, h1, a⟩ := C07_record_order o hr he g1 hp1
  obtain ⟨o2, h2, b⟩ := C07_record_order o hr he g2 hp2
  exact ⟨o1, o2, h1, h2, a.same_lookups b⟩

/-! ### counterexamples: why the fix and the hypotheses are needed -/

/-- the regression input of the repaired defect: 254 × `a` followed by `é` (256 bytes) -/
def badName : List Char := List.replicate 254 'a' ++ ['é']

/-- BEFORE the fix the writer emitted the first 255 BYTES of the name: for `badName` these end
inside `é` and are not valid UTF-8 — `String::from_utf8` fails (term: `expect` panics; gene:
`ParseBinaryError`).  The repaired truncation writes the 254 `a`. -/
theorem C07_prefix_truncation_counterexample :
    utf8Decode (truncateRaw badName) = none ∧ truncName badName = List.replicate 254 'a' := by
  have ha : (utf8 (List.replicate 254 'a')).length = 254 := utf8_replicate_length 254 'a'
  constructor
  · -- the first 255 bytes are the 254 `a` and the first of the two bytes of `é`
    have he : utf8 ['é'] = [0xC3, 0xA9] := by decide
    have hb : truncateRaw badName = utf8 (List.replicate 254 'a') ++ [0xC3] := by
      rw [truncateRaw, badName, utf8_append, he, List.take_append, ha,
        List.take_of_length_le (by rw [ha]; decide)]
      rfl
    have h3 : utf8Decode [0xC3] = none := by decide
    rw [hb, utf8Decode_utf8_append, h3]
    rfl
  · apply takeFit_append
    · rw [ha]; decide
    · rw [ha]; decide

/-- K3: a replacement id `HP:0000000` is written as the field value 0, which the decoder reads as
"no replacement" — for EVERY such term the round trip loses it.  Hence `replacement ≠ some 0` in
`TermOK` / `EncOK`. -/
theorem C07_replacement_zero_counterexample (t : Term) (hid : t.id < maxId)
    (hname : (utf8 t.name).length ≤ 255) (h0 : t.replacement = some 0) (rest : Bytes) :
    decTermV2 (encTerm 3 t ++ rest) =
      .ok { id := t.id, name := t.name, obsolete := t.obsolete, replacement := none } := by
  have e : encTerm 3 t = encTerm 3 { t with replacement := none } := by simp [encTerm, h0]
  rw [e]
  exact decTermV2_enc 3 (by decide) { t with replacement := none } ⟨hid, hname, by simp⟩ rest

/-- an ontology as `build_minimal` returns it: the two roots and one modifier branch, categories and
modifier empty (output of the model's builder for `new_term` ×3, `add_parent` ×2, `connect_all_terms`,
`calculate_information_content`, `build_minimal`) -/
def k2Onto : Onto :=
  { terms := [{ id := 1, name := "All".toList, children := [5, 118] },
              { id := 118, name := "Phenotypic abnormality".toList, parents := [1], allParents := [1] },
              { id := 5, name := "Mode of inheritance".toList, parents := [1], allParents := [1] }]
    categories := [], modifier := [] }

/-- instance lemma of the counterexample below -/
theorem C07_k2Onto_encodable : EncOK k2Onto := by
  refine ⟨by decide, by decide, ?_, ?_, ?_,
    Nat.lt_of_le_of_lt (encTerms_factsOf_le _) (by decide), by decide, by decide, by decide, by decide⟩
  all_goals exact fun _ h => nomatch h

/-- K2: categories and modifier are not part of the format: a minimal-built ontology (both `[]`)
re-loads with the DEFAULT groups.  Hence "built with defaults" in the property. -/
theorem C07_minimal_categories_counterexample :
    k2Onto.categories = [] ∧ k2Onto.modifier = [] ∧
    (decodeBytes (encodeOnto k2Onto)).toOption.map (fun o' => (o'.categories, o'.modifier)) = some ([5], [5]) := by
  refine ⟨rfl, rfl, ?_⟩
  rw [(C07_bytes_roundtrip k2Onto C07_k2Onto_encodable).2.2, k2Onto]
  -- a literal is `String.ofList` of its characters: taken out by this equation they need not be
  -- decoded from the literal's UTF-8 by `decide` (here and in the examples below)
  repeat rw [String.toList_ofList]
  decide

/-! ### non-vacuity -/

/-- `EncOK` holds for a concrete ontology with an over-long multi-byte name (300 × `é` = 600 bytes) -/
def longOnto : Onto :=
  { k2Onto with genes := [{ id := 4294967295, name := List.replicate 300 'é', hpos := [5, 118] }] }

set_option maxRecDepth 100000 in
example : EncOK longOnto := by
  refine ⟨by decide, by decide, by decide, ?_, ?_,
    Nat.lt_of_le_of_lt (encTerms_factsOf_le _) (by decide), by decide,
    Nat.lt_of_le_of_lt (encGenes_factsOf_le 2 _ (by decide)) (by decide), by decide, by decide⟩
  · exact fun _ h => nomatch h
  · exact fun _ h => nomatch h

set_option maxRecDepth 100000 in
/-- … and its gene name is written as 127 × `é` = 254 bytes -/
example : (factsOf longOnto).genes.map (fun r => (utf8 r.name).length) = [254] := by
  show [(utf8 (truncName (List.replicate 300 'é'))).length] = [254]
  rw [truncName, takeFit_replicate, utf8_replicate_length]
  decide

/-! ### non-vacuity of the refinement theorems: a Builder-made ontology with a diamond, an obsolete
replaced term, a duplicate `new_term`, failing `add_parent` / `annotate` calls, the three record
kinds, a record without terms and a 600-byte gene name

`C07_rtOnto_built`, `C07_rtOnto_reachable`, `C07_rtOnto_encodable` are the instance lemmas of the examples, not
clauses of the property. -/

def rtTops : List BOp :=
  [.term "All".toList 1, .term "Phenotypic abnormality".toList 118, .term "Mode".toList 5,
   .term "old".toList 7 true (some 9), .term "B".toList 9, .term "é".toList 11, .term "dup".toList 9,
   .parent 1 118, .parent 1 5, .parent 118 7, .parent 118 9, .parent 42 9, .parent 7 11, .parent 9 11,
   .parent 1 118]

def rtAnn : List AOp :=
  [.annotate .gene 2175 "FANCA".toList 11, .annotate .gene 3 (List.replicate 300 'é') 7,
   .addRec .orpha "none".toList 84, .annotate .omim 100 "D".toList 9,
   .annotate .gene 2175 "FANCA".toList 9, .annotate .omim 7 "x".toList 4242,
   .annotate .orpha 5 "O".toList 5]

def rtPre : Onto := (runB rtTops {}).getD {}
def rtConn : Onto := rtPre.connectAll.toOption.getD {}
def rtIc : Onto := (runA rtAnn rtConn).calcIc.toOption.getD {}

/-- what the Builder returns for `rtTops`, `connect_all_terms`, `rtAnn`,
`calculate_information_content`, `build_with_defaults` (`C07_rtOnto_built`) -/
def rtOnto : Onto :=
  { terms := [{ id := 1, name := "All".toList, children := [5, 118], genes := [3, 2175], omim := [100],
                orpha := [5], icGene := (2, 2), icOmim := (1, 1), icOrpha := (1, 2) },
              { id := 118, name := "Phenotypic abnormality".toList, parents := [1], allParents := [1],
                children := [7, 9], genes := [3, 2175], omim := [100], icGene := (2, 2), icOmim := (1, 1) },
              { id := 5, name := "Mode".toList, parents := [1], allParents := [1], orpha := [5],
                icOrpha := (1, 2) },
              { id := 7, name := "old".toList, parents := [118], allParents := [1, 118], children := [11],
                genes := [3, 2175], icGene := (2, 2), obsolete := true, replacement := some 9 },
              { id := 9, name := "B".toList, parents := [118], allParents := [1, 118], children := [11],
                genes := [2175], omim := [100], icGene := (1, 2), icOmim := (1, 1) },
              { id := 11, name := "é".toList, parents := [7, 9], allParents := [1, 7, 9, 118],
                genes := [2175], icGene := (1, 2) }]
    genes := [{ id := 2175, name := "FANCA".toList, hpos := [9, 11] },
              { id := 3, name := List.replicate 300 'é', hpos := [7] }]
    omim := [{ id := 100, name := "D".toList, hpos := [9] }]
    orpha := [{ id := 84, name := "none".toList }, { id := 5, name := "O".toList, hpos := [5] }]
    categories := [5, 7, 9]
    modifier := [5] }

theorem C07_rtOnto_built : runB rtTops {} = some rtPre ∧ rtPre.connectAll = .ok rtConn ∧
    (runA rtAnn rtConn).calcIc = .ok rtIc ∧ rtIc.buildWithDefaults = .ok rtOnto := by
  -- a finite test vector (the four parts are stages of one Builder run), evaluated by the kernel: the
  -- elaborator's evaluator needs a recursion depth beyond the default
  decide +kernel

theorem C07_rtOnto_reachable : Reachable rtOnto := by
  obtain ⟨h1, h2, h3, h4⟩ := C07_rtOnto_built
  refine C07_reachable_builder rtTops rtPre rtConn h1 ?_ h2 rtAnn rtIc rtOnto h3 h4
  exact C01.acyclic_of_terms rtPre ([1, 118, 5, 7, 9, 11].idxOf ·) (by decide)
    fun j => Nat.lt_of_le_of_lt List.idxOf_le_length (by decide)

theorem C07_rtOnto_encodable : EncOK rtOnto := by
  rw [rtOnto]
  repeat rw [String.toList_ofList]
  refine ⟨by decide, by decide, by decide, ?_, ?_,
    Nat.lt_of_le_of_lt (encTerms_factsOf_le _) (by decide), by decide,
    Nat.lt_of_le_of_lt (encGenes_factsOf_le 2 _ (by decide)) (by decide), by decide, by decide⟩
  · simp only [DiseaseOK]; decide
  · simp only [DiseaseOK]; decide

/-- the hypotheses of `C07_roundtrip` / `C07_never_rejected` / `C07_record_order` hold together … -/
example : Reachable rtOnto ∧ EncOK rtOnto := ⟨C07_rtOnto_reachable, C07_rtOnto_encodable⟩

set_option maxRecDepth 100000 in
/-- … on an ontology whose round trip really cuts a name (600 → 254 bytes) and is not the identity -/
example : (truncOnto rtOnto).genes.map (fun r => (utf8 r.name).length) = [5, 254] ∧
    rtOnto.genes.map (fun r => (utf8 r.name).length) = [5, 600] := by
  simp only [rtOnto, truncOnto, geneFacts, List.map_cons, List.map_nil, truncName, takeFit_replicate,
    utf8_replicate_length]
  rw [String.toList_ofList]
  decide

/-- … and `FactsPerm` has non-trivial instances: every section reversed -/
example : FactsPerm (factsOf rtOnto)
    { version := (factsOf rtOnto).version, terms := (factsOf rtOnto).terms.reverse,
      parents := (factsOf rtOnto).parents.reverse, genes := (factsOf rtOnto).genes.reverse,
      omim := (factsOf rtOnto).omim.reverse, orpha := (factsOf rtOnto).orpha.reverse } :=
  ⟨rfl, (List.reverse_perm _).symm, (List.reverse_perm _).symm, (List.reverse_perm _).symm,
   (List.reverse_perm _).symm, (List.reverse_perm _).symm⟩

/-! ### non-vacuity of `C07_reachable_from_bytes` / `C07_reachable_sub_ontology`

`C07_foreign_fileOK`, `C07_foreign_wf` are the instance lemmas of the first example. -/

/-- a FOREIGN record set (nothing `as_bytes` would write: term lists unsorted and with a repeated
entry, records and parents not in id order, a disease without terms, an obsolete replaced term) -/
def foreign : RawFacts :=
  { version := (2025, 1, 31)
    terms := [{ id := 118, name := "Phenotypic abnormality".toList }, { id := 7, name := "é old".toList, obsolete := true, replacement := some 118 },
              { id := 1, name := "All".toList }, { id := 9, name := "leaf".toList }]
    parents := [(9, [118, 7]), (7, [118]), (118, [1])]
    genes := [{ id := 2175, name := "FANCA".toList, hpos := [9, 118, 9] }, { id := 3, name := "G3".toList, hpos := [7] }]
    omim := [{ id := 4294967295, name := "Fanconi anemia".toList, hpos := [9] }]
    orpha := [{ id := 84, name := [], hpos := [] }] }

theorem C07_foreign_fileOK (fv : Nat) (hfv : fv = 1 ∨ fv = 2 ∨ fv = 3) : FileOK fv foreign := by
  rw [foreign]
  repeat rw [String.toList_ofList]
  refine ⟨hfv, ⟨by decide, ?_, ?_, ?_, ?_, ?_, ?_, by decide, by decide, by decide, by decide⟩, ?_⟩
  · simp only [TermOK]; decide
  · simp only [ParentsOK]; decide
  · simp only [GeneOK]; decide
  · simp only [DiseaseOK]; decide
  · simp only [DiseaseOK]; decide
  · rcases hfv with rfl | rfl | rfl <;> decide
  · intro _; decide

theorem C07_foreign_wf : WFRecords foreign := by
  rw [foreign]
  repeat rw [String.toList_ofList]
  exact
  { termsFun := by decide
    parentsClosed := by unfold IsTerm; decide
    acyclic := ⟨fun j => if j = 1 then 0 else if j = 118 then 1 else if j = 7 then 2 else 3, by decide⟩
    recIds := by intro k; cases k <;> decide
    recTerms := by intro k; cases k <;> (unfold IsTerm; decide)
    fit := by intro k; cases k <;> decide
    root := by unfold IsTerm; decide
    phenotype := by unfold IsTerm; decide }

/-- the hypotheses of `C07_reachable_from_bytes` hold together, for each of the three format versions -/
example (fv : Nat) (hfv : fv = 1 ∨ fv = 2 ∨ fv = 3) :
    ∃ o, decodeBytes (encodeRaw fv foreign) = .ok o ∧ Reachable o :=
  C07_reachable_from_bytes fv foreign (C07_foreign_fileOK fv hfv) (C07_foreign_wf.proj fv)

set_option maxRecDepth 100000 in
/-- … and those of `C07_reachable_sub_ontology` on the `sub_ontology` example that C14 uses too: `modOnto`
(`HpoProofs/SubOntology.lean`) and `modSub` (`HpoProofs/SubOntologyRun.lean`), all four terms retained, both
roots among them -/
example : ∃ d, modSub.buildWithDefaults = .ok d ∧ Reachable d := by
  have h : modOnto.subOntology modRoot [modLeaf5, modLeaf200] = .ok modSub := by decide
  have hd : modSub.buildWithDefaults = .ok (modSub.buildWithDefaults.toOption.getD {}) := by decide
  exact ⟨_, hd, C07_reachable_sub_ontology modOnto modRank modOnto_wf modRoot _ (by decide) modSub _ h hd⟩

end Hpo.C07
