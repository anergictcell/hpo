import HpoProofs.LoadRun
/-!
# C08 — the decoder honours layouts v1–v3 and never accepts truncated or extended files

A byte string laid out as format version 1, 2 or 3 decodes to exactly the ontology it describes, whatever the
order of the records inside a section; a proper prefix of a valid file, a valid file with extra bytes and a file
announcing an unsupported version are never returned as an ontology.
Property theorems only (helper lemmas: `HpoProofs/Binary.lean`, `HpoProofs/BinaryLoad.lean`,
`HpoProofs/LoadRun.lean`) and at the end, also under names `C08_…`, the instance lemmas of the examples
(`C08_nonvacuous_sample`, `C08_sample_wf`, `C08_sample_perm`).

Model: `HpoModel/Binary.lean`.  `decodeBytes : List UInt8 → Res Onto` mirrors `Ontology::from_bytes`
(`version`, `hpo_version_from_bytes`, the section walk with every slice / index as a checked
operation, `BinaryTermBuilder`, `from_bytes_v1/v2`, `Gene::try_from`, `Disease::from_bytes`, the final
`section_start == len`), structured as `version` → `decodeRaw` (bytes → records) → `Onto.loadFacts`
(records → ontology, `HpoModel/Load.lean`).  `encodeRaw fv` is an encoder written from the documented
layouts (the same tables as the harness's independent `enc.rs`; the check compares the two byte
for byte).

`FileOK fv f` (`HpoProofs/Binary.lean`): `fv ∈ {1,2,3}`; every fixed-width field fits (term ids
< 10^7 = the id table of the arena, other ids / section payloads < 2^32, fewer than 10^9 ids listed by
a record, term and gene names ≤ 255 bytes of UTF-8, disease names < 10^8 bytes, release version
(u16, u8, u8)); a replacement id is not 0 (0 encodes "none": finding K3); a v1 file (no magic) must
not start with the bytes `HPO`, required in the sufficient form that its terms section, whose length
comes first, is shorter than 0x48504f00 bytes.

`projFacts fv f`: what version `fv` carries — v1 drops release version, obsolete flags, replacements
and the ORPHA section, v2 drops the ORPHA section.

`WFRecords f` (`HpoProofs/LoadRun.lean`): a well-formed record set — term records with the same id
agree, parent records mention terms of the file only, no is_a cycle, record ids distinct inside each
gene / disease section, records list terms of the file only, at most 65 535 records per section, both
root terms present.  `C08_file_is_builder_run`: on such a file `from_bytes` is a checked Builder-API
run; `C08_record_order`: the loaded ontology does not depend on the record order.

All statements are for ALL record sets / byte strings, no size bound.

Not covered: `C08_prefix_rejected` says `isOk = false`, which leaves the outcome `diverge` open beside error and
panic; `C08_version_byte` is about files with the magic `HPO` (a file without it is read as v1). On a term with
more than 65 535 parents the model is not run: there the code is compared with the harness oracle only
(DESIGN.md 8.6).
-/
namespace Hpo.C08
open Hpo.Binary Hpo.Proto Hpo.C01

/-! ### framing -/

/-- big-endian u32: decode ∘ encode = id -/
theorem C08_u32be_inverse (n : Nat) (h : n < 4294967296) (rest : Bytes) :
    ∃ a b c d, u32be n ++ rest = a :: b :: c :: d :: rest ∧ be32 a b c d = n :=
  ⟨_, _, _, _, rfl, be32_u32be n h⟩

/-- a length-prefixed section is split off exactly, whatever follows it -/
theorem C08_section_framing (x rest : Bytes) (h : x.length < 4294967296) :
    takeSection (sec x ++ rest) = .ok (x, rest) := takeSection_sec x rest h

/-- the name bytes are valid UTF-8 and decode to the name (character by character, by core's
`ByteArray.utf8Decode?_utf8Encode_singleton_append`) -/
theorem C08_utf8_inverse (cs : List Char) : utf8Decode (utf8 cs) = some cs := utf8_roundtrip cs

/-! ### record-level inverses -/

/-- v1 term record (the decoder sees the rest of the section): id and name -/
theorem C08_record_term_v1 (t : Term) (h : TermOK t) (rest : Bytes) :
    decTermV1 (encTerm 1 t ++ rest) = .ok { id := t.id, name := t.name } := decTermV1_enc t h rest

/-- v2 / v3 term record: id, name, obsolete flag, replacement -/
theorem C08_record_term_v2 (fv : Nat) (hfv : fv = 2 ∨ fv = 3) (t : Term) (h : TermOK t) (rest : Bytes) :
    decTermV2 (encTerm fv t ++ rest) =
      .ok { id := t.id, name := t.name, obsolete := t.obsolete, replacement := t.replacement } :=
  decTermV2_enc fv (by omega) t h rest

/-- parents records: a whole section of them -/
theorem C08_record_parents (ps : List (Nat × List Nat)) (h : ∀ p ∈ ps, ParentsOK p) :
    decodeParents (encParentRecs ps) = .ok ps := decodeParents_enc ps h

/-- gene record (`Gene::try_from`): id, symbol (u8 length), term list; the decoder is handed exactly the record's
bytes, cut out by the length the record starts with, so there is no `rest` -/
theorem C08_record_gene (r : Rec) (h : GeneOK r) : decGene (encGene r) = .ok r := decGene_enc r h

/-- OMIM / ORPHA disease record (`Disease::from_bytes`): as the gene, with a u32 name length -/
theorem C08_record_disease (r : Rec) (h : DiseaseOK r) : decDisease (encDisease r) = .ok r :=
  decDisease_enc r h

/-! ### whole files -/

/-- A file laid out according to format version 1, 2 or 3 decodes to exactly the records it
describes (as far as the version carries them), and the loaded ontology is the one those records
describe. -/
theorem C08_decode_v (fv : Nat) (f : RawFacts) (h : FileOK fv f) :
    version (encodeRaw fv f) = .ok (fv, encBody fv f) ∧
    decodeRaw fv (encBody fv f) = .ok (projFacts fv f) ∧
    decodeBytes (encodeRaw fv f) = Onto.loadFacts fv (projFacts fv f) :=
  decode_encodeRaw fv f h

/-- … and of the loaded ontology, proved through ALL builder steps of `from_bytes` for v2 / v3
files: whenever the load succeeds (term ids unique), the ontology has the file's release version and,
in file order, its terms with id, name, obsolete flag and replacement. (The remaining observations —
relations, annotations, information content — are `Onto.loadFacts` of the decoded records by
`C08_decode_v`; their characterisation is C01 / C02 / C03.) -/
theorem C08_decode_terms (fv : Nat) (hfv : fv = 2 ∨ fv = 3) (f : RawFacts) (h : FileOK fv f)
    (hnd : (f.terms.map (·.id)).Nodup) (o' : Onto) (hload : decodeBytes (encodeRaw fv f) = .ok o') :
    o'.version = f.version ∧
    o'.terms.map (fun t => (t.id, t.name, t.obsolete, t.replacement)) =
      f.terms.map (fun t => (t.id, t.name, t.obsolete, t.replacement)) :=
  decodeBytes_terms fv (by omega) f h hnd o' hload

/-- Record order (hash-map iteration order of the writer), the decoding half only, for ANY record set: a file
with the records of every section permuted is a valid file, and decodes to exactly the permuted records —
none lost, duplicated or attributed to another section.  That the two loaded ontologies are
observationally equal needs hypotheses on the records: `C08_record_order` below. -/
theorem C08_record_order_decoded (fv : Nat) (f g : RawFacts) (h : FileOK fv f) (hp : FactsPerm f g) :
    FileOK fv g ∧ decodeRaw fv (encBody fv g) = .ok (projFacts fv g) ∧
    FactsPerm (projFacts fv f) (projFacts fv g) ∧
    decodeBytes (encodeRaw fv g) = Onto.loadFacts fv (projFacts fv g) := by
  have hg := h.perm hp
  exact ⟨hg, (C08_decode_v fv g hg).2.1, projFacts_perm fv hp, (C08_decode_v fv g hg).2.2⟩

/-- **Record order, v3 files of well-formed ontologies.** Let `f` be the records of a `Reachable`
ontology `o` (`HpoProofs/LoadRefine.lean`: what the public constructors establish) in any order —
i.e. any file `as_bytes` can write for `o` — and `g` any permutation of `f` inside the five
sections.  Both files load, and the two ontologies agree in every observation: release version, every
term lookup (all fields), every record lookup of the three kinds, categories and modifier. -/
theorem C08_record_order_reachable (o : Onto) (hr : Reachable o) (f g : RawFacts) (hf : FileOK 3 f)
    (hpf : FactsPerm (factsOf o) f) (hpg : FactsPerm f g) :
    ∃ o1 o2, decodeBytes (encodeRaw 3 f) = .ok o1 ∧ decodeBytes (encodeRaw 3 g) = .ok o2 ∧
      o1.version = o2.version ∧ (∀ j, getT o1.terms j = getT o2.terms j) ∧
      (∀ k r, getR (o1.recs k) r = getR (o2.recs k) r) ∧
      o1.categories = o2.categories ∧ o1.modifier = o2.modifier := by
  obtain ⟨o1, h1, a⟩ := decodeBytes_refine o hr f hf hpf
  obtain ⟨o2, h2, b⟩ := decodeBytes_refine o hr g (hf.perm hpg) (hpf.trans hpg)
  exact ⟨o1, o2, h1, h2, a.same_lookups b⟩

/-- **`from_bytes` of a well-formed file is a Builder run.** Let `f` be ANY record set that is
encodable in format version `fv` (`FileOK`) and well formed as far as the file carries it
(`WFRecords (projFacts fv f)`, clause by clause at the head of this file; `WFRecords f` suffices:
`WFRecords.proj`).  No ontology is assumed to have written `f`.
Then `from_bytes` succeeds, and returns literally the ontology `d` that the checked Builder API
produces from the records in file order — `new_term` per term record, `add_parent` per entry of a
parent record, `connect_all_terms`, per gene / disease record `add_gene` / `add_*_disease` followed by
`annotate_*` for each listed term (deduplicated, ascending), `calculate_information_content`,
`build_with_defaults`, none of them failing — with the release version the file carries. -/
theorem C08_file_is_builder_run (fv : Nat) (f : RawFacts) (h : FileOK fv f) (W : WFRecords (projFacts fv f)) :
    ∃ a oc r d,
      runB ((fileFacts (projFacts fv f)).map TermFact.op ++ (fileEdges (projFacts fv f)).map edgeOp) {} = some a ∧
      Acyclic a ∧ a.connectAll = .ok oc ∧
      (runA (fileAOps (projFacts fv f)) oc).calcIc = .ok r ∧ r.buildWithDefaults = .ok d ∧
      decodeBytes (encodeRaw fv f) = .ok { d with version := (projFacts fv f).version } := by
  obtain ⟨a, oc, r, d, B, hl⟩ := loadFacts_ok (projFacts fv f) (bareRecs_projFacts fv f) h.proj_small W
  exact ⟨a, oc, r, d, B.run, B.acyclic, B.connect, B.ic, B.build,
    (decodeBytes_encodeRaw h).trans hl⟩

/-- **The loaded ontology does not depend on the record order.** For every format
version `fv ∈ {1,2,3}` and ANY encodable record set `f` that is well formed as far as the file
carries it (`WFRecords (projFacts fv f)`, see `C08_file_is_builder_run`; in particular every file
`as_bytes` writes for a well-formed ontology, but no ontology is assumed), and every `g` that has the
same records in another order inside the five sections (`FactsPerm`): both files load, and the two
ontologies agree in every observation — release version, every term lookup (name, obsolete flag,
replacement, parents, children, ancestors, linked genes / OMIM / ORPHA diseases, the three
information-content pairs), every record lookup of the three kinds (name, direct terms), categories
and modifier.  Only the iteration order of terms and records may differ.  (Route: both loads are
Builder runs over permuted facts, `C16_terms`, `C16_records_and_terms`, `C16_ic_and_defaults`.)
The hypothesis "record ids distinct inside a section" cannot be dropped:
`C08_duplicate_record_id_counterexample`. -/
theorem C08_record_order (fv : Nat) (f g : RawFacts) (h : FileOK fv f) (hp : FactsPerm f g)
    (W : WFRecords (projFacts fv f)) :
    ∃ o1 o2, decodeBytes (encodeRaw fv f) = .ok o1 ∧ decodeBytes (encodeRaw fv g) = .ok o2 ∧
      o1.version = o2.version ∧ (∀ j, getT o1.terms j = getT o2.terms j) ∧
      (∀ k r, getR (o1.recs k) r = getR (o2.recs k) r) ∧
      o1.categories = o2.categories ∧ o1.modifier = o2.modifier := by
  obtain ⟨o1, o2, l1, l2, S, _, _⟩ := loadFacts_perm (projFacts fv f) (projFacts fv g)
    (bareRecs_projFacts fv f) (bareRecs_projFacts fv g) h.proj_small W (projFacts_perm fv hp)
  exact ⟨o1, o2, (decodeBytes_encodeRaw h).trans l1, (decodeBytes_encodeRaw (h.perm hp)).trans l2,
    S.version, S.terms, S.recs, S.categories, S.modifier⟩

/-- EVERY proper prefix of a valid file — every truncation offset `0 .. len-1`, no bound on the
file — is never returned as an ontology (`isOk = false`; that the outcome is an error or a panic and
not a walk that does not end is not part of the statement).  Framing argument (`framed_file`): a cut
length header or a cut payload makes the section slice panic; a complete section leaves a proper
prefix of the remaining sections; after the last section nothing is left to be a proper prefix of. -/
theorem C08_prefix_rejected (fv : Nat) (f : RawFacts) (h : FileOK fv f) (p : Bytes)
    (hp : p <+: encodeRaw fv f) (hne : p ≠ encodeRaw fv f) : (decodeBytes p).isOk = false :=
  (framed_file fv f h).cut p hp (Nat.lt_of_not_le fun hle => hne (hp.eq_of_length_le hle))

/-- A valid file followed by any non-empty suffix is rejected: the sections decode as before and
the final `section_start == len` check fails. -/
theorem C08_suffix_rejected (fv : Nat) (f : RawFacts) (h : FileOK fv f) (s : Bytes) (hs : s ≠ []) :
    decodeBytes (encodeRaw fv f ++ s) = .err .parseBinary := by
  rw [(framed_file fv f h).read s]
  cases s with
  | nil => exact absurd rfl hs
  | cons a s => simp [finish, Res.bind]

/-- All 256 values of the version byte: with the magic `HPO` present, every value other than 2 and
3 is `NotImplemented` (whatever follows, at least one more byte) -/
theorem C08_version_byte (v : UInt8) (rest : Bytes) (hr : rest ≠ []) (h2 : v ≠ 2) (h3 : v ≠ 3) :
    decodeBytes ([0x48, 0x50, 0x4f] ++ v :: rest) = .err .notImplemented := by
  rw [decodeBytes, ← magic, version_magic v rest hr, if_neg h3, if_neg h2, Res.bind_err]

/-- … and a file shorter than 5 bytes is an error before the version is looked at -/
theorem C08_too_short (p : Bytes) (h : p.length < 5) : decodeBytes p = .err .parseBinary := by
  rw [decodeBytes, version_short p h, Res.bind_err]

/-! ### non-vacuity: a concrete non-trivial record set satisfies the hypotheses -/

/-- two roots, an obsolete replaced term with a 2-byte character in its name, one gene, one OMIM and
one ORPHA disease with terms -/
def sample : RawFacts :=
  { version := (2024, 3, 6)
    terms := [{ id := 1, name := "All".toList }, { id := 118, name := "Phenotypic abnormality".toList },
              { id := 7, name := "é old".toList, obsolete := true, replacement := some 118 }]
    parents := [(118, [1]), (7, [118]), (1, [])]
    genes := [{ id := 2175, name := "FANCA".toList, hpos := [118, 7] }]
    omim := [{ id := 4294967295, name := "Fanconi anemia".toList, hpos := [118] }]
    orpha := [{ id := 84, name := [], hpos := [] }] }

/-- `sample` is encodable in each of the three format versions -/
theorem C08_nonvacuous_sample (fv : Nat) (hfv : fv = 1 ∨ fv = 2 ∨ fv = 3) : FileOK fv sample := by
  rw [sample]
  -- a literal is `String.ofList` of its characters: taken out by this equation they need not be
  -- decoded from the literal's UTF-8 by `decide`
  repeat rw [String.toList_ofList]
  refine ⟨hfv, ⟨by decide, ?_, ?_, ?_, ?_, ?_, ?_, by decide, by decide, by decide, by decide⟩, ?_⟩
  · simp only [TermOK]; decide
  · simp only [ParentsOK]; decide
  · simp only [GeneOK]; decide
  · simp only [DiseaseOK]; decide
  · simp only [DiseaseOK]; decide
  · rcases hfv with rfl | rfl | rfl <;> decide
  · intro _; decide

/-- the hypotheses of the file-level theorems hold for `sample` in all three versions; its v3 file
has 209 bytes, so `C08_prefix_rejected` speaks about 209 truncation offsets of this file alone -/
example : FileOK 1 sample ∧ FileOK 2 sample ∧ FileOK 3 sample :=
  ⟨C08_nonvacuous_sample 1 (by decide), C08_nonvacuous_sample 2 (by decide), C08_nonvacuous_sample 3 (by decide)⟩
set_option maxRecDepth 8000 in
example : (encodeRaw 3 sample).length = 209 ∧ (encodeRaw 1 sample).length = 166 := by
  rw [sample]
  repeat rw [String.toList_ofList]
  -- a finite test vector (the bytes of two files are written out and counted), evaluated by the
  -- kernel: the elaborator's evaluator needs a recursion depth beyond the default
  decide +kernel
/-- v1 really drops what it cannot carry -/
example : (projFacts 1 sample).terms.map (·.obsolete) = [false, false, false] ∧
    (projFacts 1 sample).orpha = [] ∧ (projFacts 2 sample).orpha = [] ∧
    (projFacts 3 sample).orpha = sample.orpha := by decide

/-! ### non-vacuity of `C08_record_order` / `C08_file_is_builder_run`, and why record ids must be distinct -/

/-- `sample` (three terms `HP:1 ← HP:118 ← HP:7`, a gene on two terms, an OMIM disease, an ORPHA
disease without terms) is a well-formed record set … -/
theorem C08_sample_wf : WFRecords sample := by
  rw [sample]
  repeat rw [String.toList_ofList]
  exact
  { termsFun := by decide
    parentsClosed := by unfold IsTerm; decide
    acyclic := ⟨fun j => if j = 1 then 0 else if j = 118 then 1 else 2, by decide⟩
    recIds := by intro k; cases k <;> decide
    recTerms := by intro k; cases k <;> (unfold IsTerm; decide)
    fit := by intro k; cases k <;> decide
    root := by unfold IsTerm; decide
    phenotype := by unfold IsTerm; decide }

/-- … `sampleRev` has the same records with every section in reverse order -/
def sampleRev : RawFacts :=
  { version := sample.version, terms := sample.terms.reverse, parents := sample.parents.reverse,
    genes := sample.genes.reverse, omim := sample.omim.reverse, orpha := sample.orpha.reverse }

/-- … a permutation of `sample` inside the sections, and a different file (the term sections differ) -/
theorem C08_sample_perm : FactsPerm sample sampleRev ∧ sample.terms ≠ sampleRev.terms :=
  ⟨⟨rfl, (List.reverse_perm _).symm, (List.reverse_perm _).symm, (List.reverse_perm _).symm,
    (List.reverse_perm _).symm, (List.reverse_perm _).symm⟩, by decide⟩

/-- all hypotheses of `C08_record_order` hold together, in each of the three format versions -/
example (fv : Nat) (hfv : fv = 1 ∨ fv = 2 ∨ fv = 3) :
    ∃ o1 o2, decodeBytes (encodeRaw fv sample) = .ok o1 ∧ decodeBytes (encodeRaw fv sampleRev) = .ok o2 ∧
      (∀ j, getT o1.terms j = getT o2.terms j) := by
  obtain ⟨o1, o2, l1, l2, _, ht, _⟩ := C08_record_order fv sample sampleRev (C08_nonvacuous_sample fv hfv)
    C08_sample_perm.1 (C08_sample_wf.proj fv)
  exact ⟨o1, o2, l1, l2, ht⟩

/-- two gene records with the SAME id 5 (everything else as in `sample`), in the two possible orders -/
def dupGenes : List Rec := [{ id := 5, name := "A".toList, hpos := [7] }, { id := 5, name := "B".toList, hpos := [118] }]
def dupA : RawFacts := { sample with genes := dupGenes }
def dupB : RawFacts := { sample with genes := dupGenes.reverse }

/-- **Why record ids must be distinct inside a section.** `dupA` and `dupB` differ only in the order of
two gene records with the same id. Both load; `HashMap::insert` keeps the LATER record (name and
term list) while the links of BOTH records stay on the terms — so the loaded ontologies differ
(`gene 5` is `B` on `[118]` in one and `A` on `[7]` in the other), and neither is a Builder state:
`HP:0000007` carries gene 5 although in the first one gene 5 does not list it. -/
theorem C08_duplicate_record_id_counterexample :
    FactsPerm dupA dupB ∧
    (Onto.loadFacts 3 dupA).toOption.map (fun o => (getR o.genes 5, (getT o.terms 7).map (·.genes))) =
      some (some { id := 5, name := "B".toList, hpos := [118] }, some [5]) ∧
    (Onto.loadFacts 3 dupB).toOption.map (fun o => (getR o.genes 5, (getT o.terms 7).map (·.genes))) =
      some (some { id := 5, name := "A".toList, hpos := [7] }, some [5]) := by
  refine ⟨⟨rfl, List.Perm.refl _, List.Perm.refl _, (List.reverse_perm _).symm, List.Perm.refl _,
    List.Perm.refl _⟩, by decide, by decide⟩

end Hpo.C08
