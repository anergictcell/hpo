import HpoProofs.Lookup
/-!
# C10 — lookups are exact for every possible id and every name

Looking a term up by id finds it iff a term with that id was added, with the data it was added with; iteration
yields every term once and agrees with `len()`; gene / disease lookups by id, the gene lookup by symbol and the
disease name search return exactly what matches.
Property theorems only. Model: `arenaInsert` / `arenaGet` / `Onto.get` (`HpoModel/Core.lean`), the association
list every other property works on; `Arena2`, `Onto.geneByName`, `Onto.omimByName`, `isInfix`
(`HpoModel/Lookup.lean`). `insertAll` (a run of `Arena::insert` calls), `slotOf`, `Rel` and the helper lemmas
are in `HpoProofs/Lookup.lean`, in this namespace.

Ids are unbounded naturals here: "every 32-bit value" and beyond. `Arena2` is the two-vector
layout of the code (placeholder in slot 0, id table of `M` entries); `Rel M a ts` says that `a` lays out the
association list `ts`: its term vector is the placeholder followed by `ts`, and the table sends every id below
`M` to the slot of the first term of `ts` with that id (0 = none). `C10_arena2_*` show that it
behaves exactly like the association-list arena used in the rest of the model.

`Onto.get` (`arenaGet`) is `getT` cut off at `maxId` = 10^7, the length of the code's id table. The two agree on
an ontology whose term ids are below 10^7 (`get_eq_getT`; on builder states `PreInv.small`). The property files
write "`j` is a term of `o`" with either, and where a statement passes from one to the other the bound is a
hypothesis: `hs` of `C15_iterators_total`, `hl hr` of `C18_added_removed_ids`.

Not covered: `omim_disease_by_name` (the first hit of the name search) has no model function; on ontologies
above 65 535 terms the model is not run (the association list is quadratic there) and the code is compared with
the harness oracle only (DESIGN.md 8.6).
-/
namespace Hpo.C10

/-! ### the association-list arena -/

/-- **Lookup by id.** After any successful sequence of insertions, for EVERY id (any natural
number): a term is found iff the id is below 10^7 and a term with that id was inserted; the term
found carries that id and is the first one inserted with it (its data as added). -/
theorem C10_get_iff (xs : List Term) (ts : List Term) (h : insertAll xs [] = some ts) (id : Nat) :
    ((arenaGet ts id).isSome ↔ ∃ x ∈ xs, x.id = id) ∧
    (∀ t, arenaGet ts id = some t → t.id = id ∧ xs.find? (fun x => x.id = id) = some t) ∧
    (∀ x ∈ xs, x.id < maxId) := by
  obtain ⟨hg, hsm⟩ := getT_insertAll xs h
  simp only [getT, Option.none_or] at hg
  have hget : arenaGet ts id = if id < maxId then xs.find? (fun x => x.id = id) else none := by
    unfold arenaGet; rw [hg]
    by_cases h : id < maxId
    · rw [if_neg (Nat.not_le.2 h), if_pos h]
    · rw [if_pos (Nat.not_lt.1 h), if_neg h]
  refine ⟨?_, fun t ht => ?_, hsm⟩
  · rw [hget]
    split
    · simp only [List.find?_isSome, decide_eq_true_eq]
    · simp only [Option.isSome_none, Bool.false_eq_true, false_iff]
      rintro ⟨x, hx, rfl⟩
      exact absurd (hsm x hx) ‹_›
  · rw [hget] at ht
    split at ht
    · exact ⟨by simpa using List.find?_some ht, ht⟩
    · cases ht

/-- a panic happens exactly when some id is beyond the id table -/
theorem C10_insert_panic_iff (xs : List Term) (ts0 : List Term) :
    insertAll xs ts0 = none ↔ ∃ x ∈ xs, maxId ≤ x.id := by
  induction xs generalizing ts0 with
  | nil => simp [insertAll]
  | cons x xs ih =>
    simp only [insertAll, List.mem_cons, exists_eq_or_imp]
    rw [← arenaInsert_eq_none (ts := ts0)]
    cases arenaInsert ts0 x with
    | none => simp only [Option.bind_none, true_or]
    | some ts1 => simpa only [Option.bind_some, reduceCtorEq, false_or] using ih ts1

/-- **Iteration.** Iterating yields every inserted id exactly once and agrees with `len()` -/
theorem C10_iter (ops : List BOp) (o : Onto) (h : runB ops {} = some o) :
    (o.ids).Nodup ∧ o.ids.length = o.terms.length ∧
    ∀ id, id ∈ o.ids ↔ (o.get id).isSome := by
  obtain ⟨hpre, _⟩ := preInv_run ops {} o preInv_nil h
  refine ⟨hpre.nodup, by simp [Onto.ids], ?_⟩
  intro id
  rw [get_eq_getT o id hpre.small]
  exact (getT_isSome_iff o.terms id).symm

/-! ### the two-vector arena of the code refines the association list -/

/-- `Arena::default()` — the placeholder alone and a table of `M` zeros — lays out the empty arena -/
theorem C10_arena2_new (M : Nat) : Rel M (Arena2.new M) [] :=
  ⟨rfl, by simp [Arena2.new], fun id h => by simp [Arena2.new, slotOf, h]⟩

/-- `Arena::get` of the code = lookup in the abstract arena, for every id (`None` beyond the table) -/
theorem C10_arena2_get (M : Nat) (a : Arena2) (ts : List Term) (h : Rel M a ts) (id : Nat) :
    a.get id = if id < M then getT ts id else none := by
  unfold Arena2.get
  by_cases hid : id < M
  · rw [h.table id hid, if_pos hid, h.terms]
    cases hs : slotOf ts id with
    | zero => exact ((slotOf_zero_iff ts id).1 hs).symm
    | succ n =>
      have := get_slot ts id placeholder (hs ▸ n.succ_ne_zero)
      rwa [hs] at this
  · rw [h.beyond (Nat.not_lt.1 hid), if_neg hid]

/-- `Arena::insert` of the code = `arenaInsert` of the abstract arena (same panic condition,
same no-op on duplicates, same append otherwise), and the representation is preserved -/
theorem C10_arena2_insert (M : Nat) (a : Arena2) (ts : List Term) (h : Rel M a ts) (t : Term) :
    (t.id ≥ M → a.insert t = none) ∧
    (t.id < M → ∃ a', a.insert t = some a' ∧
      Rel M a' (match getT ts t.id with | some _ => ts | none => ts ++ [t])) := by
  unfold Arena2.insert
  constructor
  · intro hge
    rw [h.beyond hge]
  · intro hlt
    rw [h.table t.id hlt]
    cases hs : slotOf ts t.id with
    | zero =>
      rw [(slotOf_zero_iff ts t.id).1 hs]
      refine ⟨_, rfl, by simp [h.terms], by simp [h.size], fun id hid => ?_⟩
      rw [slotOf_append]
      by_cases he : t.id = id
      · subst he
        simp [hs, h.terms, h.size, hid]
      · rw [List.getElem?_set_ne he, h.table id hid]
        cases slotOf ts id <;> simp [he]
    | succ n =>
      cases hg : getT ts t.id with
      | none => rw [(slotOf_zero_iff ts t.id).2 hg] at hs; cases hs
      | some _ => exact ⟨a, rfl, h⟩

/-- `len()` of the code's layout -/
theorem C10_arena2_len (M : Nat) (a : Arena2) (ts : List Term) (h : Rel M a ts) :
    a.len = ts.length ∧ a.values = ts := by
  simp [Arena2.len, Arena2.values, h.terms]

/-! ### records and names -/

/-- **Gene / disease by id.** The record found carries the id asked for -/
theorem C10_rec_by_id (rs : List Rec) (i : Nat) :
    (∀ r, getR rs i = some r → r.id = i ∧ r ∈ rs) ∧
    ((getR rs i).isSome ↔ ∃ r ∈ rs, r.id = i) := by
  refine ⟨fun r h => ⟨getR_id h, getR_mem h⟩, ?_⟩
  rw [getR_isSome_iff]; simp

/-- **Gene by symbol.** Returns a gene of the ontology with exactly that symbol, and nothing iff
no gene has that symbol -/
theorem C10_gene_by_name (o : Onto) (q : List Char) :
    (∀ g, o.geneByName q = some g → g.name = q ∧ g ∈ o.genes) ∧
    (o.geneByName q = none ↔ ∀ g ∈ o.genes, g.name ≠ q) := by
  unfold Onto.geneByName
  constructor
  · intro g h
    exact ⟨by have := List.find?_some h; simpa using this, List.mem_of_find?_eq_some h⟩
  · simp only [List.find?_eq_none, decide_eq_true_eq, ne_eq]

/-- **Disease name search** returns exactly the diseases whose name contains the query
(for every query string, the empty one included) -/
theorem C10_disease_search (o : Onto) (q : List Char) (d : Rec) :
    d ∈ o.omimByName q ↔ d ∈ o.omim ∧ ∃ s t, d.name = s ++ q ++ t := by
  simp only [Onto.omimByName, List.mem_filter, isInfix_iff, List.append_assoc]

/-! ### non-vacuity -/

example : insertAll [{ id := 0, name := ['a'] }, { id := 9999999, name := [] }, { id := 0, name := ['b'] }] []
    = some [{ id := 0, name := ['a'] }, { id := 9999999, name := [] }] := rfl

example : insertAll [{ id := 10000000, name := [] }] [] = none := by decide

example : isInfix "ar".toList "Marfan".toList = true ∧ isInfix [] [] = true ∧
    isInfix "x".toList "Marfan".toList = false := by
  repeat rw [String.toList_ofList]  -- character lists first: `decide` would decode the literals
  decide

end Hpo.C10
