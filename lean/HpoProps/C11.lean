import HpoProofs.Path
/-!
# C11 — distances and paths between terms are valid walks of minimal length

`distance_to_ancestor` / `path_to_ancestor` return the length of, and an actual, shortest chain of parent links;
`distance_to_term` is the minimum over the common ancestors of the two upward distances and is symmetric;
`path_to_term` of two distinct terms is a walk of exactly that many steps ending in the second term; all are
absent exactly when there is nothing to return.
Property theorems only (definitions and helper lemmas: `HpoProofs/Path.lean`).

Model functions (`HpoModel/Read.lean`, mirroring `src/term/hpoterm.rs`):
`distToAnc` / `pathToAnc` (`distance_to_ancestor` / `path_to_ancestor`, recursion over the DAG
with fuel), `distToTerm` / `pathToTerm` (`distance_to_term` / `path_to_term`).

Specification side: `o.par`, `Chain`, `Shortest`, `Reach`, `ChainPath`, `Linked`, `Walk`, each explained where
it is defined, at the head of `HpoProofs/Path.lean`.

Hypotheses (`PathWF o rank`, a structure of explicit predicates): every parent id resolves;
`all_parents` is the transitive closure of `parents` (`closed` — the conclusion of C01);
the parent relation is acyclic, witnessed by a rank function that decreases along parent links
and is below the fuel (`o.fuel = #terms + 2` for the two-term functions).  No bound on the size
or depth of the ontology.  `Res.ok` in the conclusions also says: no panic, no divergence.
`PathWF` holds for every `Reachable` ontology, i.e. for what every public constructor returns
(`C07_reachable_pathWF`), and for the result of `sub_ontology` (`C14_result_wf`).

"`a` is an ancestor of `i`" is `∃ n, Chain o.par i a (n+1)` here and in C14 (`Reach` also admits `n = 0`), and
`TransGen (isA o) i a` in C01–C03 and C16; the two agree: `transGen_iff_chain` (`HpoProofs/SubOntologyRun.lean`).

Not covered: WHICH shortest chain or walk is returned where several exist (the theorems say that the result is
one; the model mirrors the code's `min` / `min_by_key`, which keep the first minimum).
-/
namespace Hpo.C11
open Hpo.Onto

variable {o : Onto} {rank : Nat → Nat}

/-- `distance_to_ancestor`: the result is `Some d` iff `d` is the least length of a chain of
parent links from the term up to `a`; it is `None` iff `a` is neither the term nor in its ancestor
closure, iff there is no chain at all. -/
theorem C11_dist_anc (wf : PathWF o rank) {i : Nat} {t : Term} (ht : o.get i = some t)
    {fuel : Nat} (hf : rank i < fuel) (a : Nat) :
    (∀ d, distToAnc fuel o t a = .ok (some d) ↔
      (Chain o.par i a d ∧ ∀ n, Chain o.par i a n → d ≤ n)) ∧
    (distToAnc fuel o t a = .ok none ↔ (a ≠ i ∧ a ∉ t.allParents)) ∧
    (distToAnc fuel o t a = .ok none ↔ ¬ ∃ n, Chain o.par i a n) := by
  obtain ⟨r, hr, hs⟩ := distToAnc_spec wf a fuel i t ht hf
  have H := Res.ok_iff_of_unique (fun _ _ => IsMin.unique) hr hs
  have hnone := (H none).trans isMin_chain_none
  refine ⟨fun d => H (some d), ?_, hnone⟩
  rw [hnone, wf.reach_iff ht a, not_or]

/-- `path_to_ancestor`: a returned path is a chain of parent links, witnessed link by link, that
starts at a parent of the term and ends in the ancestor, and its length is the distance; a path is
returned exactly when a distance is. -/
theorem C11_path_anc (wf : PathWF o rank) {i : Nat} {t : Term} (ht : o.get i = some t)
    {fuel : Nat} (hf : rank i < fuel) (a : Nat) :
    (∀ p, pathToAnc fuel o t a = .ok (some p) →
      ChainPath o.par i p a ∧ (i :: p).getLast? = some a ∧
      distToAnc fuel o t a = .ok (some p.length)) ∧
    (pathToAnc fuel o t a = .ok none ↔ distToAnc fuel o t a = .ok none) ∧
    (∃ r, pathToAnc fuel o t a = .ok r) := by
  obtain ⟨r, hr, hs⟩ := pathToAnc_spec wf a fuel i t ht hf
  have hd := distToAnc_of_path _ _ _ hr
  refine ⟨fun p hp => ?_, ?_, ⟨r, hr⟩⟩
  · rw [hr] at hp
    cases hp
    exact ⟨hs.1, hs.1.getLast, hd⟩
  · rw [hr, hd]
    cases r <;> simp

/-- `distance_to_term`: the result is `Some d` iff `d` is the minimum over the common ancestors `c`
(the two terms included) of the sum of the two shortest upward distances; `None` iff the terms have
no common ancestor. -/
theorem C11_dist_term (wf : PathWF o rank) {i j : Nat} {a b : Term}
    (ha : o.get i = some a) (hb : o.get j = some b) :
    (∀ d, o.distToTerm a b = .ok (some d) ↔
      ((∃ c dx dy, Shortest o.par i c dx ∧ Shortest o.par j c dy ∧ d = dx + dy) ∧
       ∀ c dx dy, Shortest o.par i c dx → Shortest o.par j c dy → d ≤ dx + dy)) ∧
    (o.distToTerm a b = .ok none ↔ ¬ ∃ c, (∃ n, Chain o.par i c n) ∧ (∃ m, Chain o.par j c m)) := by
  obtain ⟨r, hr, hs⟩ := distToTerm_spec wf ha hb
  have H := Res.ok_iff_of_unique (fun _ _ => TermSpec.unique) hr hs
  exact ⟨fun d => H (some d), H none⟩

/-- `distance_to_term` is symmetric -/
theorem C11_dist_symm (wf : PathWF o rank) {i j : Nat} {a b : Term}
    (ha : o.get i = some a) (hb : o.get j = some b) :
    o.distToTerm a b = o.distToTerm b a :=
  distToTerm_symm wf ha hb

/-- `path_to_term` for two distinct terms: a returned path is a walk along parent / child links
that starts at a neighbour of the first term, ends in the second term and has exactly
`distance_to_term` steps; no path is returned exactly when there is no distance (no common
ancestor).  Not for `a = b`: `path_to_term(a, a)` is `[a]`, one id at distance 0. -/
theorem C11_path_term (wf : PathWF o rank) {i j : Nat} {a b : Term}
    (ha : o.get i = some a) (hb : o.get j = some b) (hij : i ≠ j) :
    (∀ p, o.pathToTerm a b = .ok (some p) →
      Walk o.par i p ∧ p.getLast? = some j ∧ o.distToTerm a b = .ok (some p.length)) ∧
    (o.pathToTerm a b = .ok none ↔ o.distToTerm a b = .ok none) ∧
    (∃ r, o.pathToTerm a b = .ok r) := by
  obtain ⟨r, hr, hd, hw⟩ := pathToTerm_spec wf ha hb hij
  refine ⟨fun p hp => ?_, ?_, ⟨r, hr⟩⟩
  · rw [hr] at hp
    cases hp
    exact ⟨(hw p rfl).1, (hw p rfl).2, hd⟩
  · rw [hr, hd]
    cases r <;> simp

/-- The defect that was repaired (`fix: path_to_term ...`): on the 7-term DAG `dag7`
(`10 → 11 → 12 → 13 → 14 → 15` and the shared parent `16` of `10` and `15`) the distance between
`10` and its ancestor `15` is 2, but the function before the fix (`pathToTermPrefix`, with the ancestor
shortcut) returns the 5-step chain; the function as it stands returns the 2-step walk over `16`. -/
theorem C11_path_shortcut_counterexample :
    ∃ a b, dag7.get 10 = some a ∧ dag7.get 15 = some b ∧
      dag7.distToTerm a b = .ok (some 2) ∧
      dag7.pathToTermPrefix a b = .ok (some [11, 12, 13, 14, 15]) ∧
      dag7.pathToTerm a b = .ok (some [16, 15]) := by
  refine ⟨_, _, rfl, rfl, ?_, ?_, ?_⟩ <;> decide

/-- non-vacuity: the hypotheses hold on the 7-term DAG (a multi-parent node, two routes of different
length to the same ancestor), and the theorems give the expected concrete values there -/
example : PathWF dag7 dag7Rank := dag7_wf

example : ∃ t, dag7.get 10 = some t ∧ distToAnc dag7.fuel dag7 t 15 = .ok (some 5) ∧
    pathToAnc dag7.fuel dag7 t 15 = .ok (some [11, 12, 13, 14, 15]) ∧
    distToAnc dag7.fuel dag7 t 10 = .ok (some 0) := by
  refine ⟨_, rfl, ?_, ?_, ?_⟩ <;> decide

example : Shortest dag7.par 10 15 5 := by
  obtain ⟨t, ht, hd, _⟩ : ∃ t, dag7.get 10 = some t ∧ distToAnc dag7.fuel dag7 t 15 = .ok (some 5) ∧ True :=
    ⟨_, rfl, by decide, trivial⟩
  exact ((C11_dist_anc dag7_wf ht (by decide) 15).1 5).1 hd

end Hpo.C11
