import HpoProofs.Read
/-!
# C12 — term-id groups behave as sorted sets; ancestor queries are their set algebra

An `HpoGroup` is a set kept in ascending order: insertion reports whether the id was new, membership, length and
iteration agree with the set of inserted ids, `|`, `&` and `+ id` are union, intersection and adding an element,
from every constructor; the common- and union-ancestor queries of two terms are intersection and union of their
ancestor sets.
Property theorems only (model: `HpoModel/Group.lean`, and `HpoModel/Read.lean` for the ancestor queries; helper
lemmas: `HpoProofs/Group.lean`, `HpoProofs/Read.lean`).  `Sorted g` =
strictly ascending (`Pairwise (<)`), i.e. sorted and duplicate free.  Everything is for lists of any
length: there is no bound on group sizes or on the number of operations (the inline-storage limit of 30 of the
code's `SmallVec` is not modelled: a group is a list).

One clause of the property text is FALSE of the code, and the file proves its negation: "with the terms
themselves included exactly in the variants documented to include them" fails for `all_union_ancestor_ids`,
which returns the plain union (`C12_all_union_K1`; known finding K1, `known_findings.txt`; the model follows
the code and its doc-example, not the prose note).
-/
namespace Hpo.C12
open Hpo.Group

/-- every constructor (`From<Vec>`, `From<HashSet>`, `FromIterator`: a fold of `insert` over the
input in *any* order, with duplicates) yields a strictly ascending vector with exactly the input ids -/
theorem C12_constructors (xs : List Nat) :
    Sorted (ofList xs) ∧ ∀ x, x ∈ ofList xs ↔ x ∈ xs :=
  ⟨sorted_ofList xs, mem_ofList xs⟩

/-- invariant: any sequence of insertions into any constructed group keeps it strictly ascending,
and its members are exactly the ids supplied so far -/
theorem C12_inv (xs ys : List Nat) :
    Sorted (insertAll (ofList xs) ys) ∧ ∀ x, x ∈ insertAll (ofList xs) ys ↔ x ∈ xs ∨ x ∈ ys := by
  refine ⟨sorted_insertAll ys _ (sorted_ofList xs), ?_⟩
  intro x; rw [mem_insertAll, mem_ofList]

/-- `insert` reports `true` exactly when the id was new; afterwards the id is a member and nothing
else changed; the length grows by one exactly in that case -/
theorem C12_insert (g : List Nat) (x : Nat) (h : Sorted g) :
    Sorted (insert g x).1 ∧ ((insert g x).2 = true ↔ x ∉ g) ∧
    (∀ y, y ∈ (insert g x).1 ↔ y = x ∨ y ∈ g) ∧
    (insert g x).1.length = (if x ∈ g then g.length else g.length + 1) := by
  refine ⟨sorted_insert g x h, insert_snd g x h, mem_insert g x, ?_⟩
  rw [length_insert]
  by_cases hx : x ∈ g
  · rw [(insert_snd_eq_false g x h).2 hx, if_pos hx]; rfl
  · rw [(insert_snd g x h).2 hx, if_neg hx]; rfl

/-- membership test; iteration yields the vector itself, so "strictly ascending" is the hypothesis `Sorted g` once
more and only "no duplicates" is derived -/
theorem C12_contains_iter (g : List Nat) (x : Nat) (h : Sorted g) :
    (contains g x = true ↔ x ∈ g) ∧ g.Pairwise (· < ·) ∧ g.Nodup :=
  ⟨contains_iff g x, h, h.nodup⟩

/-- union `|` -/
theorem C12_or (a b : List Nat) (ha : Sorted a) (hb : Sorted b) :
    Sorted (bitor a b) ∧ ∀ x, x ∈ bitor a b ↔ x ∈ a ∨ x ∈ b :=
  ⟨sorted_bitor a b ha hb, mem_bitor a b⟩

/-- intersection `&` -/
theorem C12_and (a b : List Nat) (ha : Sorted a) (hb : Sorted b) :
    Sorted (bitand a b) ∧ ∀ x, x ∈ bitand a b ↔ x ∈ a ∧ x ∈ b :=
  ⟨sorted_bitand a b ha hb, mem_bitand a b⟩

/-- adding one id: `+ id`, `| id` -/
theorem C12_add (a : List Nat) (x : Nat) (ha : Sorted a) :
    Sorted (addId a x) ∧ ∀ y, y ∈ addId a x ↔ y = x ∨ y ∈ a :=
  ⟨sorted_addId a x ha, mem_addId a x⟩

/-- canonical form: two groups with the same members are the same vector, so every set-algebra
identity holds as an *equality of results* (`len`, `iter`, `get(i)` all agree) -/
theorem C12_canonical (a b : List Nat) (ha : Sorted a) (hb : Sorted b)
    (h : ∀ x, x ∈ a ↔ x ∈ b) : a = b :=
  eq_of_sorted_of_mem_iff a b ha hb h

theorem C12_or_comm (a b : List Nat) (ha : Sorted a) (hb : Sorted b) : bitor a b = bitor b a :=
  bitor_comm a b ha hb

theorem C12_or_assoc (a b c : List Nat) (ha : Sorted a) (hb : Sorted b) (hc : Sorted c) :
    bitor (bitor a b) c = bitor a (bitor b c) := by
  apply eq_of_sorted_of_mem_iff _ _ (sorted_bitor _ c (sorted_bitor a b ha hb) hc)
    (sorted_bitor a _ ha (sorted_bitor b c hb hc))
  intro x; simp only [mem_bitor]; exact or_assoc

theorem C12_or_idem (a : List Nat) (ha : Sorted a) : bitor a a = a := by
  apply eq_of_sorted_of_mem_iff _ _ (sorted_bitor a a ha ha) ha
  intro x; simp [mem_bitor]

theorem C12_and_comm (a b : List Nat) (ha : Sorted a) (hb : Sorted b) : bitand a b = bitand b a :=
  bitand_comm a b ha hb

theorem C12_and_idem (a : List Nat) (ha : Sorted a) : bitand a a = a := by
  apply eq_of_sorted_of_mem_iff _ _ (sorted_bitand a a ha ha) ha
  intro x; simp [mem_bitand]

/-- `&` distributes over `|` (as equal vectors) -/
theorem C12_and_or_distrib (a b c : List Nat) (ha : Sorted a) (hb : Sorted b) (hc : Sorted c) :
    bitand a (bitor b c) = bitor (bitand a b) (bitand a c) := by
  apply eq_of_sorted_of_mem_iff _ _ (sorted_bitand a _ ha (sorted_bitor b c hb hc))
    (sorted_bitor _ _ (sorted_bitand a b ha hb) (sorted_bitand a c ha hc))
  intro x; simp only [mem_bitand, mem_bitor, and_or_left]

/-! ### ancestor queries of two terms (the groups are the terms' ancestor sets) -/

/-- `common_ancestor_ids` = intersection of the ancestor sets -/
theorem C12_common (a b : Term) (ha : Sorted a.allParents) (hb : Sorted b.allParents) :
    Sorted (a.commonAncestorIds b) ∧
    ∀ x, x ∈ a.commonAncestorIds b ↔ x ∈ a.allParents ∧ x ∈ b.allParents :=
  ⟨sorted_bitand _ _ ha hb, mem_bitand _ _⟩

/-- `all_common_ancestor_ids`: the terms themselves included on both sides -/
theorem C12_all_common (a b : Term) (ha : Sorted a.allParents) (hb : Sorted b.allParents) :
    Sorted (a.allCommonAncestorIds b) ∧
    ∀ x, x ∈ a.allCommonAncestorIds b ↔
      (x = a.id ∨ x ∈ a.allParents) ∧ (x = b.id ∨ x ∈ b.allParents) :=
  ⟨a.sorted_allCommonAncestorIds b ha hb, a.mem_allCommonAncestorIds b⟩

/-- `union_ancestor_ids` = union of the ancestor sets -/
theorem C12_union (a b : Term) (ha : Sorted a.allParents) (hb : Sorted b.allParents) :
    Sorted (a.unionAncestorIds b) ∧
    ∀ x, x ∈ a.unionAncestorIds b ↔ x ∈ a.allParents ∨ x ∈ b.allParents :=
  ⟨a.sorted_unionAncestorIds b ha hb, a.mem_unionAncestorIds b⟩

/-- Known finding K1: as the code (and its executable doc-example) stands, the `all_` union variant
equals the plain one — the terms themselves are *not* added, contrary to the prose note. -/
theorem C12_all_union_K1 (a b : Term) : a.allUnionAncestorIds b = a.unionAncestorIds b := rfl

/-! ### non-vacuity: concrete non-trivial instances satisfy the hypotheses -/

example : Sorted [1, 5, 9] ∧ Sorted [2, 5, 7, 11] := by decide
example : bitor [1, 5, 9] [2, 5, 7, 11] = [1, 2, 5, 7, 9, 11] := by decide
example : bitand [1, 5, 9] [2, 5, 7, 11] = [5] := by decide
example : ofList [9, 1, 5, 1, 9] = [1, 5, 9] := by decide
example : insert [1, 5, 9] 5 = ([1, 5, 9], false) ∧ insert [1, 5, 9] 6 = ([1, 5, 6, 9], true) := by decide
/-- K1 witness: two unrelated terms, the union variant documented to include them does not -/
example : (7 : Nat) ∉ Term.allUnionAncestorIds { id := 7, name := [], allParents := [1] }
    { id := 8, name := [], allParents := [1, 2] } := by decide

end Hpo.C12
