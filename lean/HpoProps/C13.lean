import HpoProofs.SetOps
import HpoModel.Num
import HpoProps.C03
/-!
# C13 — HpoSet filters, replacements and aggregates are exact

Property theorems only (helper lemmas: `HpoProofs/SetOps.lean`, model: `HpoModel/SetOps.lean`).
A set is an `Onto` plus an id list `S` (the `HpoGroup`); results are `Res` values because the code
panics (`expect("HpoTermId must be in Ontology")`) on a member that is not a term.

Hypotheses are explicit and decidable:
  `Resolves o S`          every member of `S` is a term of `o` (the documented precondition of `HpoSet`)
  `o.categories.Nodup`    the category list has no duplicates (it is an `HpoGroup`)
Nothing bounds the size of the ontology or of the set; `S` may be empty, contain ancestors together
with descendants, and replacements may collide with members or not be terms at all.
"Ancestors of y" are `t.allParents` for the term `t` that `y` resolves to (C01 relates that field to
the transitive closure of the direct parents).
-/
namespace Hpo.C13
open Hpo.Group Hpo.SetOps

/-- `child_nodes` keeps exactly the members that no member has among its ancestors
(i.e. the members without a descendant in the set); the result is a strictly ascending group -/
theorem C13_child_nodes (o : Onto) (S : List Nat) (h : Resolves o S) :
    ∃ R, childNodes o S = .ok R ∧ Sorted R ∧
      ∀ x, x ∈ R ↔ x ∈ S ∧ ∀ y ∈ S, ∀ t, o.get y = some t → x ∉ t.allParents := by
  refine ⟨_, by rw [childNodes, childFilter_ok o h]; rfl, sorted_ofList _, fun x => ?_⟩
  simp only [mem_ofList, List.mem_filter, List.all_eq_true, List.mem_filterMap, Bool.not_eq_true',
    ← Bool.not_eq_true, contains_iff]
  exact and_congr_right fun _ =>
    ⟨fun hx y hy t ht => hx t ⟨y, hy, ht⟩, fun hx t ⟨y, hy, ht⟩ => hx y hy t ht⟩

/-- consequences: the result is a subset of the set, no member of it is an ancestor of another one,
and applying `child_nodes` again changes nothing -/
theorem C13_child_nodes_antichain (o : Onto) (S R : List Nat) (h : Resolves o S)
    (hR : childNodes o S = .ok R) :
    (∀ x ∈ R, x ∈ S) ∧ (∀ x ∈ R, ∀ y ∈ R, ∀ t, o.get y = some t → x ∉ t.allParents) ∧
    childNodes o R = .ok R := by
  obtain ⟨R', hR', hs, hmem⟩ := C13_child_nodes o S h
  rw [hR] at hR'; cases hR'
  have hsub : ∀ x ∈ R, x ∈ S := fun x hx => ((hmem x).1 hx).1
  have hres : Resolves o R := fun x hx => h x (hsub x hx)
  refine ⟨hsub, fun x hx y hy t ht => ((hmem x).1 hx).2 y (hsub y hy) t ht, ?_⟩
  obtain ⟨R2, hR2, hs2, hmem2⟩ := C13_child_nodes o R hres
  rw [hR2]
  congr
  apply eq_of_sorted_of_mem_iff _ _ hs2 hs
  intro x
  rw [hmem2]
  exact ⟨fun hx => hx.1, fun hx => ⟨hx, fun y hy t ht => ((hmem x).1 hx).2 y (hsub y hy) t ht⟩⟩

/-- `is_modifier`: the term or one of its ancestors is a modifier root -/
theorem C13_is_modifier (o : Onto) (t : Term) :
    o.isModifier t = true ↔ ∃ m ∈ o.modifier, m = t.id ∨ m ∈ t.allParents :=
  o.isModifier_iff t

/-- `without_modifier` drops exactly the members that are, or descend from, a modifier root -/
theorem C13_modifier (o : Onto) (S : List Nat) (h : Resolves o S) :
    ∃ R, withoutModifier o S = .ok R ∧ Sorted R ∧
      ∀ x, x ∈ R ↔ x ∈ S ∧ ∀ t, o.get x = some t → ¬ ∃ m ∈ o.modifier, m = x ∨ m ∈ t.allParents := by
  refine ⟨_, by rw [withoutModifier, modifierFilter_eq, iter_ok h]; rfl, sorted_ofList _, fun x => ?_⟩
  rw [mem_ofList, mem_filter_resolved h]
  refine and_congr_right fun _ => forall₂_congr fun t ht => ?_
  rw [Bool.not_eq_true', ← Bool.not_eq_true, C13_is_modifier, Onto.get_id ht]

/-- `without_obsolete` drops exactly the members flagged obsolete -/
theorem C13_obsolete (o : Onto) (S : List Nat) (h : Resolves o S) :
    ∃ R, withoutObsolete o S = .ok R ∧ Sorted R ∧
      ∀ x, x ∈ R ↔ x ∈ S ∧ ∀ t, o.get x = some t → t.obsolete = false := by
  refine ⟨_, by rw [withoutObsolete, obsoleteFilter_eq, iter_ok h]; rfl, sorted_ofList _, fun x => ?_⟩
  simp only [mem_ofList, mem_filter_resolved h, Bool.not_eq_true']

/-- `with_replaced_obsolete`: the result is the image of the set under
`x ↦ replacement(x)` if `x` names a replacement, else `x` — as a set (collisions merge; the
replacement id itself is not required to be a term) -/
theorem C13_replace (o : Onto) (S : List Nat) (h : Resolves o S) :
    ∃ R, withReplacedObsolete o S = .ok R ∧ Sorted R ∧
      ∀ x, x ∈ R ↔ ∃ y ∈ S, ∃ t, o.get y = some t ∧ x = t.replacement.getD y := by
  refine ⟨_, by rw [withReplacedObsolete, replaceMap_eq, iter_ok h]; rfl, sorted_ofList _, fun x => ?_⟩
  rw [mem_ofList, List.mem_map, exists_mem_resolved (p := fun y t => t.replacement.getD y = x)]
  simp only [eq_comm]

/-- in particular: a member that names no replacement stays, one that names a replacement is
substituted by it -/
theorem C13_replace_member (o : Onto) (S R : List Nat) (h : Resolves o S)
    (hR : withReplacedObsolete o S = .ok R) (y : Nat) (hy : y ∈ S) (t : Term) (ht : o.get y = some t) :
    (t.replacement = none → y ∈ R) ∧ (∀ r, t.replacement = some r → r ∈ R) := by
  obtain ⟨R', hR', _, hmem⟩ := C13_replace o S h
  rw [hR] at hR'; cases hR'
  constructor
  · intro hn; exact (hmem y).2 ⟨y, hy, t, ht, by simp [hn]⟩
  · intro r hr; exact (hmem r).2 ⟨y, hy, t, ht, by simp [hr]⟩

/-- `gene_ids`, `omim_disease_ids`, `orpha_disease_ids` are the unions over the members
(duplicate free: their length is the number of distinct records) -/
theorem C13_unions (o : Onto) (S : List Nat) (h : Resolves o S) :
    (∃ G, geneIds o S = .ok G ∧ G.Nodup ∧ ∀ g, g ∈ G ↔ ∃ y ∈ S, ∃ t, o.get y = some t ∧ g ∈ t.genes) ∧
    (∃ D, omimDiseaseIds o S = .ok D ∧ D.Nodup ∧ ∀ g, g ∈ D ↔ ∃ y ∈ S, ∃ t, o.get y = some t ∧ g ∈ t.omim) ∧
    (∃ D, orphaDiseaseIds o S = .ok D ∧ D.Nodup ∧ ∀ g, g ∈ D ↔ ∃ y ∈ S, ∃ t, o.get y = some t ∧ g ∈ t.orpha) :=
  ⟨annUnion_ok h .gene, annUnion_ok h .omim, annUnion_ok h .orpha⟩

/-- `HpoTerm::categories`: the category roots at or above the term -/
theorem C13_categories_of (o : Onto) (t : Term) (c : Nat) :
    c ∈ o.categoriesOf t ↔ c ∈ o.categories ∧ (c = t.id ∨ c ∈ t.allParents) :=
  o.mem_categoriesOf t c

/-- does member `x` lie in category `c` -/
def inCategory (o : Onto) (c x : Nat) : Bool :=
  match o.get x with
  | some t => decide (c ∈ o.categoriesOf t)
  | none => false

/-- `categories`: the count stored for `c` is the number of members whose categories contain `c`,
and the keys of the map are exactly the categories with a positive count -/
theorem C13_categories (o : Onto) (S : List Nat) (h : Resolves o S) (hc : o.categories.Nodup) :
    ∃ m, categories o S = .ok m ∧
      (∀ c, count m c = S.countP (inCategory o c)) ∧
      (∀ c, c ∈ m.map (·.1) ↔ 0 < S.countP (inCategory o c)) := by
  have hin : ∀ c, S.countP (inCategory o c) =
      (S.filterMap o.get).countP fun t => decide (c ∈ o.categoriesOf t) := fun c => by
    rw [List.countP_filterMap]
    congr
    funext x
    unfold inCategory
    cases o.get x <;> rfl
  refine ⟨_, by rw [categories, categoriesAcc_eq, iter_ok h]; rfl, fun c => ?_, fun c => ?_⟩
  · rw [count_foldl_bumpAll _ _ (fun t _ => hc.sublist (o.categoriesOf_sublist t)), hin]
    exact Nat.zero_add _
  · rw [mem_keys_foldl_bumpAll, hin, List.countP_pos_iff]
    simp only [List.map_nil, List.not_mem_nil, false_or, decide_eq_true_eq]

/-- `information_content`: gene and omim are computed by C03's function `icCalc total count` from
the number of records of the ontology and the size of the union over the members; orpha is left at
its default -/
theorem C13_ic (o : Onto) (S : List Nat) (h : Resolves o S) :
    ∃ G D, geneIds o S = .ok G ∧ omimDiseaseIds o S = .ok D ∧
      informationContent o S =
        (Onto.icCalc o.genes.length G.length).bind fun ig =>
          (Onto.icCalc o.omim.length D.length).bind fun io => .ok (ig, io, (0, 0)) := by
  obtain ⟨G, hG, _⟩ := annUnion_ok h .gene
  obtain ⟨D, hD, _⟩ := annUnion_ok h .omim
  exact ⟨G, D, hG, hD, by rw [informationContent, geneIds, omimDiseaseIds, hG, hD]; rfl⟩

/-- the stored pair when all counts are positive and fit `u16`: `(|union|, N)` for gene and omim -/
theorem C13_ic_pairs (o : Onto) (S G D : List Nat) (h : Resolves o S)
    (hG : geneIds o S = .ok G) (hD : omimDiseaseIds o S = .ok D)
    (h1 : 0 < G.length) (h2 : 0 < D.length)
    (h3 : o.genes.length ≤ 65535) (h4 : o.omim.length ≤ 65535)
    (h5 : G.length ≤ 65535) (h6 : D.length ≤ 65535)
    (h7 : 0 < o.genes.length) (h8 : 0 < o.omim.length) :
    informationContent o S = .ok ((G.length, o.genes.length), (D.length, o.omim.length), (0, 0)) := by
  obtain ⟨G', D', hG', hD', hic⟩ := C13_ic o S h
  rw [hG] at hG'; cases hG'
  rw [hD] at hD'; cases hD'
  rw [hic, icCalc_pos h7 h1 h3 h5, icCalc_pos h8 h2 h4 h6]
  rfl

/-- and the number a pair stands for is `-ln(count/total)` (checked division), `0` when either is `0`
— for every numeric instance (`Float32` in the driver, `ℝ` in C03's proofs) -/
theorem C13_ic_value {F : Type} [Num F] (c t : Nat) :
    (icValue (c, t) : Option F) =
      if t = 0 ∨ c = 0 then some (Num.ofNat 0)
      else (Num.div? (Num.ofNat c : F) (Num.ofNat t)).map (fun q => Num.neg (Num.log q)) := rfl

/-- For non-empty unions no larger than the record counts, which fit `u16`, the aggregated
information content of the set is, over the reals, `-ln(|∪ genes of the members| / N_genes)` resp.
`-ln(|∪ diseases| / N_omim)`, never negative; and for EVERY monotone rounding (`Rounding`,
`HpoProofs/Rounded.lean`) it is defined and `≥ 0`. -/
theorem C13_ic_real (o : Onto) (S G D : List Nat) (h : Resolves o S)
    (hG : geneIds o S = .ok G) (hD : omimDiseaseIds o S = .ok D)
    (h1 : 0 < G.length) (h2 : 0 < D.length)
    (h3 : o.genes.length ≤ 65535) (h4 : o.omim.length ≤ 65535)
    (h5 : G.length ≤ o.genes.length) (h6 : D.length ≤ o.omim.length) :
    ∃ p, informationContent o S = .ok p ∧
      (icValue p.1 : Option ℝ) = some (-Real.log ((G.length : ℝ) / (o.genes.length : ℝ))) ∧
      (icValue p.2.1 : Option ℝ) = some (-Real.log ((D.length : ℝ) / (o.omim.length : ℝ))) ∧
      0 ≤ -Real.log ((G.length : ℝ) / (o.genes.length : ℝ)) ∧
      0 ≤ -Real.log ((D.length : ℝ) / (o.omim.length : ℝ)) ∧
      ∀ R : Rounding, (∃ v, (icValue p.1 : Option (RVal R)) = some v ∧ 0 ≤ v.v) ∧
        (∃ v, (icValue p.2.1 : Option (RVal R)) = some v ∧ 0 ≤ v.v) := by
  obtain ⟨vG, nG, rG⟩ := icValue_pos_counts h1 h5 h3
  obtain ⟨vD, nD, rD⟩ := icValue_pos_counts h2 h6 h4
  exact ⟨_, C13_ic_pairs o S G D h hG hD h1 h2 h3 h4 (Nat.le_trans h5 h3) (Nat.le_trans h6 h4)
    (Nat.lt_of_lt_of_le h1 h5) (Nat.lt_of_lt_of_le h2 h6), vG, vD, nG, nD, fun R => ⟨rG R, rD R⟩⟩

/-- each in-place operation yields the same set as its copying counterpart (for every input,
also when it panics) -/
theorem C13_inplace_eq_copy (o : Onto) (S : List Nat) :
    removeModifier o S = withoutModifier o S ∧
    removeObsolete o S = withoutObsolete o S ∧
    replaceObsolete o S = withReplacedObsolete o S :=
  ⟨congrArg _ (modifierFilterMut_eq o S), congrArg _ (obsoleteFilterMut_eq o S),
    congrArg _ (replaceMapMut_eq o S)⟩

/-- the precondition is necessary: with a member that is not a term, every operation that walks
the whole set panics (`child_nodes` may stop early inside its inner `all`, see the model) -/
theorem C13_panic_without_member (o : Onto) (S : List Nat) (h : ¬ Resolves o S) :
    withoutModifier o S = .panic ∧ withoutObsolete o S = .panic ∧ withReplacedObsolete o S = .panic ∧
    geneIds o S = .panic ∧ omimDiseaseIds o S = .panic ∧ orphaDiseaseIds o S = .panic ∧
    categories o S = .panic ∧ informationContent o S = .panic := by
  have hi := iter_panic h
  have hu : ∀ k, annUnion o k S [] = .panic := fun k => by rw [annUnion_eq, hi]; rfl
  exact ⟨by rw [withoutModifier, modifierFilter_eq, hi]; rfl,
    by rw [withoutObsolete, obsoleteFilter_eq, hi]; rfl,
    by rw [withReplacedObsolete, replaceMap_eq, hi]; rfl,
    hu .gene, hu .omim, hu .orpha, by rw [categories, categoriesAcc_eq, hi]; rfl,
    by rw [informationContent, geneIds, hu]; rfl⟩

/-- the id-level views: `len`, `is_empty`, `contains` of a group -/
theorem C13_views (S : List Nat) (x : Nat) :
    len S = S.length ∧ (isEmpty S = true ↔ S = []) ∧ (SetOps.contains S x = true ↔ x ∈ S) :=
  ⟨rfl, by simp [isEmpty], contains_iff S x⟩

/-! ### non-vacuity: a small ontology with a modifier branch, an obsolete term with a replacement
that is a member, and one whose replacement is not a term -/

/-- HP:1 ← {118, 5}; 118 ← 7 ← 9; 5 ← 6; 20 obsolete → 7; 21 obsolete → 999 (not a term) -/
def exO : Onto :=
  { terms := [
      { id := 1, name := [], children := [5, 118], genes := [1, 2], omim := [3] },
      { id := 118, name := [], parents := [1], allParents := [1], children := [7], genes := [1, 2], omim := [3] },
      { id := 5, name := [], parents := [1], allParents := [1], children := [6] },
      { id := 6, name := [], parents := [5], allParents := [1, 5] },
      { id := 7, name := [], parents := [118], allParents := [1, 118], children := [9], genes := [1, 2], omim := [3] },
      { id := 9, name := [], parents := [7], allParents := [1, 7, 118], genes := [2] },
      { id := 20, name := [], obsolete := true, replacement := some 7 },
      { id := 21, name := [], obsolete := true, replacement := some 999 }],
    genes := [{ id := 1, name := [], hpos := [7] }, { id := 2, name := [], hpos := [9] }],
    omim := [{ id := 3, name := [], hpos := [7] }],
    categories := [5, 7], modifier := [5] }

example : Resolves exO [1, 6, 7, 9, 20, 21] ∧ exO.categories.Nodup ∧ Sorted [1, 6, 7, 9, 20, 21] := by decide
example : childNodes exO [1, 6, 7, 9, 20, 21] = .ok [6, 9, 20, 21] := by decide
example : withoutModifier exO [1, 6, 7, 9, 20, 21] = .ok [1, 7, 9, 20, 21] := by decide
example : withoutObsolete exO [1, 6, 7, 9, 20, 21] = .ok [1, 6, 7, 9] := by decide
/-- 20 collides with the member 7, 21 is replaced by an id that is not a term -/
example : withReplacedObsolete exO [1, 6, 7, 9, 20, 21] = .ok [1, 6, 7, 9, 999] := by decide
example : geneIds exO [9, 6] = .ok [2] ∧ geneIds exO [7, 9] = .ok [1, 2] := by decide
example : categories exO [1, 6, 7, 9, 20] = .ok [(5, 1), (7, 2)] := by decide
example : informationContent exO [9, 6] = .ok ((1, 2), (0, 0), (0, 0)) := by decide
/-- without the hypothesis the code panics: 999 is not a term -/
example : ¬ Resolves exO [7, 999] ∧ withoutObsolete exO [7, 999] = .panic := by decide

end Hpo.C13
