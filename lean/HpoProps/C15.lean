import HpoProps.C02
/-!
# C15 — rejected builder calls have no effect; built ontologies have no dangling ids

A Builder call that returns `Err` leaves the builder as it was, so the result equals the ontology built from the
successful calls alone; and after any call history every id the read API hands out resolves.
Model (`HpoModel/Builder.lean`): `addParentSt` / `annotateSt` model a call as the sequence of look-ups and
in-place mutations the code performs and return the builder *as it is left behind* together with the result, so
"an `Err` leaves the builder unchanged" is a statement with content (it is false for the code
before the two `fix:` commits, see the counterexamples at the end). `Onto.resolve` (`HpoModel/Read.lean`) is the
iterator that panics on an unknown id.

In the statements: `runSt step ops s` runs a history and records per call whether it succeeded, `keep ops flags`
are the calls flagged `true`, so "the result equals the ontology built from the successful calls alone" reads
`(runSt step (keep ops flags) s).1 = (runSt step ops s).1`. `RefClosed o`: parents, children, ancestors, the
records on a term and the direct terms of a record all resolve in `o`. `AncClosure`, `AnnInv` and the fuel bound
describe a state of the annotation phase; the head of `HpoProps/C02.lean` explains them.

Not covered. The replay clause is proved for histories of `add_parent` alone and of `annotate_*` alone
(`C15_filter_errors_add_parent`, `C15_filter_errors_annotate`): not with `add_gene` / `add_*_disease`, not
interleaved with `new_term` or with each other. `C15_closed` speaks of the state after the last annotation call
(the same clauses for the finished ontology are in `built_of_run`, `HpoProofs/Built.lean`). Totality is stated for
the iterators `parents`, `children`, `all_parents` (`C15_iterators_total`); for the gene / disease iterators of a
term and `hpo_terms` of a record there is `RefClosed.termRecs` / `recTerms`, and no totality statement.

Besides the property theorems: `addParentSt_ok` (the stateful `add_parent` and the functional one agree).
-/
namespace Hpo.C15
open Hpo.C01 Hpo.C02

/-! ### a failing call has no effect -/

/-- `add_parent`: whenever the result is not `Ok`, the builder is exactly as before — for every
builder state and all ids (absent, ≥ 10^7, equal ids …) -/
theorem C15_add_parent_error_no_effect (o : Onto) (p c : Nat)
    (h : (o.addParentSt p c).2 ≠ .ok ()) : (o.addParentSt p c).1 = o := by
  rw [addParentSt_eq] at h ⊢
  split at h
  · exact absurd rfl h
  · rfl

/-- the stateful model and the functional one (`addParent`, used in C01/C02) agree -/
theorem addParentSt_ok (o : Onto) (p c : Nat) :
    ((o.addParentSt p c).2 = .ok () → o.addParent p c = .ok (o.addParentSt p c).1) ∧
    ((o.addParentSt p c).2 ≠ .ok () → o.addParent p c = .err .doesNotExist) := by
  rw [addParentSt_eq]
  rcases addParent_cases o p c with ⟨he, _⟩ | ⟨_, _, hok⟩
  · simp [he]
  · simp [hok]

/-- `annotate_*`: on every state reachable by the builder API (invariant `AnnInv`), whenever the
result is not `Ok` the builder is exactly as before, and the only possible failure is
`DoesNotExist` for an unknown term (no panic, no divergence). -/
theorem C15_annotate_error_no_effect (anc : Nat → List Nat) (ex : Nat → Prop) (rank : Nat → Nat)
    (hc : AncClosure anc ex rank) (o : Onto) (hinv : AnnInv anc ex o)
    (hf : ∀ j, rank j < o.terms.length + 2) (k : Kind) (rid : Nat) (n : List Char) (t : Nat)
    (h : (o.annotateSt k rid n t).2 ≠ .ok ()) :
    (o.annotateSt k rid n t).1 = o ∧ (o.annotateSt k rid n t).2 = .err .doesNotExist ∧ ¬ ex t := by
  rcases AnnState.annotateSt_spec ⟨hc, hinv, hf⟩ k rid n t with ⟨_, he⟩ | ⟨hne, he⟩
  · rw [he] at h; exact absurd rfl h
  · rw [he]; exact ⟨rfl, rfl, hne⟩

/-! ### the result equals the ontology built from the successful calls alone -/

/-- run a history, recording per call whether it succeeded -/
def runSt {σ α : Type} (step : σ → α → σ × Bool) : List α → σ → σ × List Bool
  | [], s => (s, [])
  | a :: as, s => ((runSt step as (step s a).1).1, (step s a).2 :: (runSt step as (step s a).1).2)

/-- the calls whose flag is `true` -/
def keep {α : Type} : List α → List Bool → List α
  | a :: as, b :: bs => if b then a :: keep as bs else keep as bs
  | _, _ => []

/-- For any step function whose failing calls leave the state unchanged, the final state equals the
state reached by the successful calls alone (which then all succeed). `Inv` is a state invariant,
for where "failing calls change nothing" holds on reachable states only. -/
theorem C15_filter_errors_inv {σ α : Type} (step : σ → α → σ × Bool) (Inv : σ → Prop)
    (hinv : ∀ s a, Inv s → Inv (step s a).1)
    (hfail : ∀ s a, Inv s → (step s a).2 = false → (step s a).1 = s) :
    ∀ (ops : List α) (s : σ), Inv s →
      (runSt step (keep ops (runSt step ops s).2) s).1 = (runSt step ops s).1 ∧
      (runSt step (keep ops (runSt step ops s).2) s).2 =
        List.replicate (keep ops (runSt step ops s).2).length true := by
  intro ops
  induction ops with
  | nil => intro s _; simp [runSt, keep]
  | cons a ops ih =>
    intro s hs
    simp only [runSt, keep]
    cases hb : (step s a).2 with
    | false =>
      simp only [Bool.false_eq_true, ↓reduceIte]
      have hs' := hfail s a hs hb
      rw [hs']
      exact ih s hs
    | true =>
      simp only [↓reduceIte, runSt, hb, List.length_cons, List.replicate_succ]
      have := ih (step s a).1 (hinv s a hs)
      exact ⟨this.1, by rw [this.2]⟩

/-- Generic: the same when failing calls leave every state unchanged. -/
theorem C15_filter_errors {σ α : Type} (step : σ → α → σ × Bool)
    (hfail : ∀ s a, (step s a).2 = false → (step s a).1 = s) :
    ∀ (ops : List α) (s : σ),
      (runSt step (keep ops (runSt step ops s).2) s).1 = (runSt step ops s).1 ∧
      (runSt step (keep ops (runSt step ops s).2) s).2 =
        List.replicate (keep ops (runSt step ops s).2).length true :=
  fun ops s => C15_filter_errors_inv step (fun _ => True) (fun _ _ _ => trivial)
    (fun s a _ => hfail s a) ops s trivial

/-- instance: histories of `add_parent` calls alone, from any builder state -/
theorem C15_filter_errors_add_parent (ops : List (Nat × Nat)) (o : Onto) :
    let step := fun (o : Onto) (pc : Nat × Nat) =>
      ((o.addParentSt pc.1 pc.2).1, decide ((o.addParentSt pc.1 pc.2).2 = .ok ()))
    (runSt step (keep ops (runSt step ops o).2) o).1 = (runSt step ops o).1 :=
  (C15_filter_errors _ (fun s a h => C15_add_parent_error_no_effect s a.1 a.2 (by simpa using h)) ops o).1

/-- instance: histories of `annotate_*` calls alone (all three kinds, any ids; no `add_gene`, no term-level call
in between) from any state reachable through the builder API: the final builder equals the one reached by the
successful calls alone. `hn` with `hlen` is the fuel bound `hf` of C02, the number of terms named `n`. -/
theorem C15_filter_errors_annotate (anc : Nat → List Nat) (ex : Nat → Prop) (rank : Nat → Nat)
    (hc : AncClosure anc ex rank) (n : Nat) (hn : ∀ j, rank j < n + 2)
    (ops : List (Kind × Nat × List Char × Nat)) (o : Onto)
    (hinv : AnnInv anc ex o) (hlen : o.terms.length = n) :
    let step := fun (o : Onto) (c : Kind × Nat × List Char × Nat) =>
      ((o.annotateSt c.1 c.2.1 c.2.2.1 c.2.2.2).1,
       decide ((o.annotateSt c.1 c.2.1 c.2.2.1 c.2.2.2).2 = .ok ()))
    (runSt step (keep ops (runSt step ops o).2) o).1 = (runSt step ops o).1 := by
  intro step
  -- the invariant of the history is `AnnState`; on its states `step` is `applyA` with the outcome
  refine (C15_filter_errors_inv step (AnnState anc ex rank) ?_ ?_ ops o
    ⟨hc, hinv, by rw [hlen]; exact hn⟩).1
  · rintro s ⟨k, rid, nm, t⟩ S
    have : (step s (k, rid, nm, t)).1 = applyA s (.annotate k rid nm t) := by
      rcases S.annotateSt_spec k rid nm t with ⟨_, he⟩ | ⟨hne, he⟩
      · simp only [step, he]
      · simp only [step, he, S.inv.applyA_absent k rid nm hne]
    rw [this]
    exact S.step _
  · rintro s ⟨k, rid, nm, t⟩ S hb
    exact (C15_annotate_error_no_effect anc ex rank hc s S.inv S.fuel k rid nm t
      (by simpa [step] using hb)).1

/-! ### built ontologies are referentially closed -/

/-- every id handed out by the read API resolves in the same ontology -/
structure RefClosed (o : Onto) : Prop where
  parents : ∀ j p, p ∈ parentsOf o.terms j → (getT o.terms p).isSome
  children : ∀ j c, c ∈ childrenOf o.terms j → (getT o.terms c).isSome
  ancestors : ∀ j a, a ∈ allOf o.terms j → (getT o.terms a).isSome
  termRecs : ∀ k j r, r ∈ annOf k o.terms j → (getR (o.recs k) r).isSome
  recTerms : ∀ k r d, d ∈ hposOf k o r → (getT o.terms d).isSome

/-- After ANY history of term-level calls, `connect_all_terms`, and ANY history of annotation
calls — failing calls included — the builder is referentially closed. -/
theorem C15_closed (tops : List BOp) (o oc : Onto) (hrun : runB tops {} = some o)
    (hac : Acyclic o) (hc : o.connectAll = .ok oc) (aops : List AOp) :
    RefClosed (runA aops oc) := by
  have C := connected_of_run hrun hac hc
  obtain ⟨rank, S⟩ := connected_annState C
  have H := (S.run aops).inv
  -- the annotation calls keep the terms, their `parents` and `children`; `connect_all_terms` did before them
  have hpres : ∀ j, (getT o.terms j).isSome → (getT (runA aops oc).terms j).isSome :=
    fun j hj => (H.pres j).2 (by rw [present, C.upd.isSome]; exact hj)
  have hP : ∀ j, parentsOf (runA aops oc).terms j = parentsOf o.terms j := fun j => by
    rw [← C.upd.parents_eq j, parentsOf,
      (runA_frame aops oc).lookup (·.parents) (fun t k v => by cases k <;> rfl), parentsOf]
  have hC : ∀ j, childrenOf (runA aops oc).terms j = childrenOf o.terms j := fun j => by
    rw [← C.upd.children_eq j, childrenOf,
      (runA_frame aops oc).lookup (·.children) (fun t k v => by cases k <;> rfl), childrenOf]
  exact ⟨fun j p hp => hpres p (C.pre.closedP j p (hP j ▸ hp)),
    fun j c hc' => hpres c (C.pre.closedC j c (hC j ▸ hc')),
    fun j a ha => (H.pres a).2 (S.closure.exist j a ((H.pres j).1 (isSome_of_mem_getD ha)) (H.ancF j ▸ ha)),
    fun k j r hr => (C02_resolves tops o oc hrun hac hc aops k).1 j r hr,
    fun k r d hd => (H.pres d).2 (H.recTerms k r d hd)⟩

/-- hence the iterators `parents()`, `children()` and `all_parents()` of every term succeed (`Onto.resolve`
returns `none` where the real iterator panics on an unknown id). `hs`: term ids are below 10^7, the bound by
which `Onto.get`, which `resolve` calls, differs from `getT`, in which `RefClosed` is written (`get_eq_getT`);
builder states have it (`PreInv.small`, `AnnInv.small`). The gene / disease iterators of a term and `hpo_terms`
of a record are not in the conclusion. -/
theorem C15_iterators_total (o : Onto) (h : RefClosed o) (hs : ∀ j, (getT o.terms j).isSome → j < maxId) :
    ∀ j, (o.resolve (parentsOf o.terms j)).isSome ∧ (o.resolve (childrenOf o.terms j)).isSome ∧
      (o.resolve (allOf o.terms j)).isSome := by
  have key : ∀ ids : List Nat, (∀ x ∈ ids, (getT o.terms x).isSome) → (o.resolve ids).isSome := by
    intro ids
    induction ids with
    | nil => intro _; rfl
    | cons x xs ih =>
      intro hx
      obtain ⟨t, ht⟩ := Option.isSome_iff_exists.1 (hx x List.mem_cons_self)
      have hget : o.get x = some t := get_eq_some.2 ⟨hs x (by rw [ht]; rfl), ht⟩
      simp only [Onto.resolve, hget, Option.isSome_map]
      exact ih fun y hy => hx y (List.mem_cons_of_mem _ hy)
  intro j
  exact ⟨key _ (h.parents j), key _ (h.children j), key _ (h.ancestors j)⟩

/-! ### the code before the two `fix:` commits violated the property -/

def twoTerms : Onto := ((runB [.term [] 200, .term [] 201] {}).getD {})

/-- F1: `add_parent(200, 999)` with 999 absent returned `Err` but left 999 among the children of
200 — a dangling id (`children()` then panicked) -/
theorem C15_add_parent_counterexample :
    (twoTerms.addParentStPrefix 200 999).2 = .err .doesNotExist ∧
    childrenOf (twoTerms.addParentStPrefix 200 999).1.terms 200 = [999] ∧
    ((twoTerms.addParentStPrefix 200 999).1.resolve [999]).isNone := by decide

/-- F2: `annotate_gene(7, _, 999)` with 999 absent returned `Err` but created gene 7 with the
dangling direct term 999 (the number of genes changed from 0 to 1) -/
theorem C15_annotate_counterexample :
    (twoTerms.annotateStPrefix .gene 7 [] 999).2 = .err .doesNotExist ∧
    hposOf .gene (twoTerms.annotateStPrefix .gene 7 [] 999).1 7 = [999] ∧
    (twoTerms.annotateStPrefix .gene 7 [] 999).1.genes.length = 1 ∧ twoTerms.genes.length = 0 := by
  decide

/-- non-vacuity of the fixed behaviour on the same input -/
example : (twoTerms.addParentSt 200 999) = (twoTerms, .err .doesNotExist) := rfl
example : (twoTerms.annotateSt .gene 7 [] 999) = (twoTerms, .err .doesNotExist) := rfl

end Hpo.C15
