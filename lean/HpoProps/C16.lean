import HpoProps.C02
import HpoProofs.Facts
import HpoProofs.ObsEq
import HpoProofs.Ic
/-!
# C16 — the ontology is a function of the facts, not of the order they are supplied

Two ontologies built from the same terms, is_a links and annotation facts are observationally identical
whatever the order in which these are passed to the Builder, stand in a binary file or in the text files.
Model: the Builder histories `runB` / `runA` of C01 / C02, here over fact lists (`TermFact`, `EdgeFact` with
`TermFact.op`, `edgeOp`: `HpoProofs/Facts.lean`).

Builder route. Facts: term facts (one per id: hypothesis `Functional`), is_a edge facts,
annotation calls. Two runs whose fact lists are permutations of each other (`List.Perm`; repeated
facts allowed) yield ontologies in which every lookup returns *equal* terms and records — every
field, including the canonical (sorted) groups. Only the iteration order (the order of `o.terms`)
may differ; it is not part of the statement.
`NamesFunctional nameOf ops` (`HpoProofs/ObsEq.lean`) is "one name per gene / disease id": every call about
record `(k, r)` supplies the name `nameOf k r`. Without it the name a record ends with depends on which call
came first, so the record lookups of `C16_records_and_terms` need it; the links of `C16_annotations` do not.

The theorems go stage by stage (terms and links, annotations, records, information content and default groups),
each from "equal lookups before" to "equal lookups after". Their composition for a whole Builder program is
`builderRun_perm` (`HpoProofs/BuilderRun.lean`): two `BuilderRun`s over permuted facts end in ontologies with
`SameLookups`.
The binary and text loaders run the same builder steps on their records, in file order
(`C08_file_is_builder_run`, `C09_file_is_builder_run`); so the order of the records inside a binary file,
and of the stanzas and rows of the text files, does not matter either: `C08_record_order`, `C09_file`.

Besides the property theorems: `Functional`, `find_perm` and `C16_terms_pre` (the state before
`connect_all_terms`), `annState_of_lookups` (two runs with equal term lookups share one annotation invariant).
-/
namespace Hpo.C16
open Hpo.C01 Hpo.C02 Group

/-- one fact per term id -/
def Functional (fs : List TermFact) : Prop := ∀ f ∈ fs, ∀ g ∈ fs, f.id = g.id → f = g

/-- what `terms_phase` reads of the fact list, `find?` on the id, is the same in every order, given one fact
per id -/
theorem find_perm (fs1 fs2 : List TermFact) (hp : fs1.Perm fs2) (hf : Functional fs1) (j : Nat) :
    fs1.find? (fun f => f.id = j) = fs2.find? (fun f => f.id = j) := by
  refine lookup_ext (by simp only [List.find?_isSome, hp.mem_iff]) fun f1 f2 h1 h2 => ?_
  -- both are facts of `fs1` with id `j`
  have e1 : f1.id = j := by simpa using List.find?_some h1
  have e2 : f2.id = j := by simpa using List.find?_some h2
  exact hf f1 (List.mem_of_find?_eq_some h1) f2 (hp.mem_iff.2 (List.mem_of_find?_eq_some h2))
    (e1.trans e2.symm)

/-- state of two runs over permuted term and edge facts, before `connect_all_terms`:
every lookup returns the same term -/
theorem C16_terms_pre (fs1 fs2 : List TermFact) (es1 es2 : List EdgeFact)
    (hpf : fs1.Perm fs2) (hpe : es1.Perm es2) (hfun : Functional fs1) (o1 o2 : Onto)
    (h1 : runB (fs1.map TermFact.op ++ es1.map edgeOp) {} = some o1)
    (h2 : runB (fs2.map TermFact.op ++ es2.map edgeOp) {} = some o2) :
    ∀ j, getT o1.terms j = getT o2.terms j := by
  rw [runB_append, Option.bind_eq_some_iff] at h1 h2
  obtain ⟨a1, ha1, hb1⟩ := h1
  obtain ⟨a2, ha2, hb2⟩ := h2
  obtain ⟨t1, _⟩ := terms_phase fs1 a1 ha1
  obtain ⟨t2, _⟩ := terms_phase fs2 a2 ha2
  have hpre1 := (preInv_run _ {} a1 preInv_nil ha1).1
  have hpre2 := (preInv_run _ {} a2 preInv_nil ha2).1
  have ha : ∀ j, getT a1.terms j = getT a2.terms j := by
    intro j; rw [t1 j, t2 j, find_perm fs1 fs2 hpf hfun j]
  obtain ⟨p1, q1, r1, s1⟩ := edges_phase es1 a1 o1 hpre1 hb1
  obtain ⟨p2, q2, r2, s2⟩ := edges_phase es2 a2 o2 hpre2 hb2
  have hq1 := (preInv_run _ a1 o1 hpre1 hb1).1
  have hq2 := (preInv_run _ a2 o2 hpre2 hb2).1
  -- strictly ascending groups with the same members: the edge facts whose two ends exist
  have hP : ∀ j, parentsOf o1.terms j = parentsOf o2.terms j := fun j =>
    eq_of_sorted_of_mem_iff _ _ (hq1.sortedP j) (hq2.sortedP j) fun x => by
      rw [r1 j x, r2 j x]; simp only [parentsOf, ha, hpe.mem_iff]
  have hC : ∀ j, childrenOf o1.terms j = childrenOf o2.terms j := fun j =>
    eq_of_sorted_of_mem_iff _ _ (hq1.sortedC j) (hq2.sortedC j) fun x => by
      rw [s1 j x, s2 j x]; simp only [childrenOf, ha, hpe.mem_iff]
  intro j
  refine lookup_ext (by rw [p1 j, p2 j, ha j]) fun u1 u2 g1 g2 => ?_
  have hf := (q1 j).trans ((congrArg _ (ha j)).trans (q2 j).symm)
  have e1 := hP j
  have e2 := hC j
  rw [parentsOf_eq g1, parentsOf_eq g2] at e1
  rw [childrenOf_eq g1, childrenOf_eq g2] at e2
  rw [g1, g2] at hf
  exact term_ext u1 u2 ((getT_id g1).trans (getT_id g2).symm) (Option.some.inj hf) e1 e2

/-- **Terms, links and ancestors are order independent.** After `connect_all_terms`, every
lookup returns the same term (name, flags, parents, children, ancestors …) in both runs. -/
theorem C16_terms (fs1 fs2 : List TermFact) (es1 es2 : List EdgeFact)
    (hpf : fs1.Perm fs2) (hpe : es1.Perm es2) (hfun : Functional fs1) (o1 o2 oc1 oc2 : Onto)
    (h1 : runB (fs1.map TermFact.op ++ es1.map edgeOp) {} = some o1)
    (h2 : runB (fs2.map TermFact.op ++ es2.map edgeOp) {} = some o2)
    (hac : Acyclic o1) (c1 : o1.connectAll = .ok oc1) (c2 : o2.connectAll = .ok oc2) :
    ∀ j, getT oc1.terms j = getT oc2.terms j := by
  have hpre := C16_terms_pre fs1 fs2 es1 es2 hpf hpe hfun o1 o2 h1 h2
  have hq1 := (preInv_run _ {} o1 preInv_nil h1).1
  have hq2 := (preInv_run _ {} o2 preInv_nil h2).1
  -- equal lookups: the same is_a relation and as many terms, so the second run is acyclic as well
  have hisA : isA o2 = isA o1 := funext fun c => funext fun p => by rw [isA, isA, parentsOf, parentsOf, hpre c]
  have hlen : o2.terms.length = o1.terms.length := by
    have hm : ∀ a, a ∈ o1.terms.map (·.id) ↔ a ∈ o2.terms.map (·.id) := by
      intro a; rw [← getT_isSome_iff, ← getT_isSome_iff, hpre a]
    simpa using ((List.perm_ext_iff_of_nodup hq1.nodup hq2.nodup).2 hm).length_eq.symm
  have hac2 : Acyclic o2 := by
    obtain ⟨rank, hr, hb⟩ := hac
    exact ⟨rank, fun c p hp => hr c p (show isA o1 c p from hisA ▸ hp), by rw [hlen]; exact hb⟩
  have C1 := connected_of_run h1 hac c1
  have C2 := connected_of_run h2 hac2 c2
  have hall : ∀ j, allOf oc1.terms j = allOf oc2.terms j := fun j =>
    eq_of_sorted_of_mem_iff _ _ (C1.sorted j) (C2.sorted j) fun a => by rw [C1.closure j a, C2.closure j a, hisA]
  intro j
  rw [C1.upd.2 j, C2.upd.2 j, hpre j, hall j]

/-- equal lookups: the same ancestor function and the same terms, hence one invariant for both runs -/
theorem annState_of_lookups {oc1 oc2 : Onto} {rank : Nat → Nat}
    (hterms : ∀ j, getT oc1.terms j = getT oc2.terms j)
    (S : AnnState (ancOf oc2) (present oc2) rank oc2) : AnnState (ancOf oc1) (present oc1) rank oc2 := by
  have hanc : ancOf oc2 = ancOf oc1 := funext fun j => by rw [ancOf, ancOf, allOf, allOf, hterms j]
  have hex : present oc2 = present oc1 := funext fun j => by rw [present, present, hterms j]
  rwa [hanc, hex] at S

/-- **Annotations are order independent.** Two annotation histories that are permutations of each
other, run on two connected ontologies with equal lookups (e.g. from `C16_terms`), link the same
records to every term and give every record the same direct terms, for each kind. -/
theorem C16_annotations (tops1 tops2 : List BOp) (o1 o2 oc1 oc2 : Onto)
    (h1 : runB tops1 {} = some o1) (h2 : runB tops2 {} = some o2)
    (hac1 : Acyclic o1) (hac2 : Acyclic o2)
    (c1 : o1.connectAll = .ok oc1) (c2 : o2.connectAll = .ok oc2)
    (hterms : ∀ j, getT oc1.terms j = getT oc2.terms j)
    (ops1 ops2 : List AOp) (hp : ops1.Perm ops2) (k : Kind) :
    (∀ r, hposOf k (runA ops1 oc1) r = hposOf k (runA ops2 oc2) r) ∧
    (∀ x, annOf k (runA ops1 oc1).terms x = annOf k (runA ops2 oc2).terms x) := by
  have C1 := connected_of_run h1 hac1 c1
  have C2 := connected_of_run h2 hac2 c2
  obtain ⟨rank1, S1⟩ := connected_annState C1
  obtain ⟨rank2, S2⟩ := connected_annState C2
  have S2 := annState_of_lookups hterms S2
  exact S1.runA_perm S2 hp k fun r => by rw [hposOf_nil (C1.recs_nil k), hposOf_nil (C2.recs_nil k)]

/-- **Records, terms and totals are order independent.** With one name per record id, two
permuted annotation histories on two connected ontologies with equal lookups give:
equal record lookups (id, name, direct terms), equal term lookups (every field), and the same
number of records per kind (the `N` of the information content). -/
theorem C16_records_and_terms (tops1 tops2 : List BOp) (o1 o2 oc1 oc2 : Onto)
    (h1 : runB tops1 {} = some o1) (h2 : runB tops2 {} = some o2)
    (hac1 : Acyclic o1) (hac2 : Acyclic o2)
    (c1 : o1.connectAll = .ok oc1) (c2 : o2.connectAll = .ok oc2)
    (hterms : ∀ j, getT oc1.terms j = getT oc2.terms j)
    (ops1 ops2 : List AOp) (hp : ops1.Perm ops2)
    (nameOf : Kind → Nat → List Char) (hn : NamesFunctional nameOf ops1) :
    (∀ k r, getR ((runA ops1 oc1).recs k) r = getR ((runA ops2 oc2).recs k) r) ∧
    (∀ j, getT (runA ops1 oc1).terms j = getT (runA ops2 oc2).terms j) ∧
    (∀ k, ((runA ops1 oc1).recs k).length = ((runA ops2 oc2).recs k).length) := by
  have C1 := connected_of_run h1 hac1 c1
  have C2 := connected_of_run h2 hac2 c2
  obtain ⟨rank1, S1⟩ := connected_annState C1
  obtain ⟨rank2, S2⟩ := connected_annState C2
  have S2 := annState_of_lookups hterms S2
  -- neither ontology has a record yet
  have z1 := C1.recs_nil
  have z2 := C2.recs_nil
  have hrecs : ∀ k r, getR ((runA ops1 oc1).recs k) r = getR ((runA ops2 oc2).recs k) r :=
    S1.runA_perm_recs S2 hp nameOf hn (fun k r => by rw [z1, z2]) fun k r x hx => by
      rw [z1] at hx; cases hx
  refine ⟨hrecs, S1.runA_perm_terms S2 hp hterms fun k r => by rw [hposOf_nil (z1 k), hposOf_nil (z2 k)], fun k => ?_⟩
  -- distinct record ids with the same members
  have hnd1 := S1.runA_recIds ops1 k (by rw [z1]; exact List.nodup_nil)
  have hnd2 := S2.runA_recIds ops2 k (by rw [z2]; exact List.nodup_nil)
  have hm : ∀ a, a ∈ ((runA ops1 oc1).recs k).map (·.id) ↔ a ∈ ((runA ops2 oc2).recs k).map (·.id) := by
    intro a; rw [← getR_isSome_iff, ← getR_isSome_iff, hrecs k a]
  simpa using ((List.perm_ext_iff_of_nodup hnd1 hnd2).2 hm).length_eq

/-- **Information content and default groups are order independent.** Two builder states with
equal term lookups and equal numbers of records per kind (e.g. from `C16_records_and_terms`) give,
after `calculate_information_content`, equal term lookups again (now including the stored
information content of the three kinds), and `build_with_defaults` assigns the same categories and
modifier roots. -/
theorem C16_ic_and_defaults (b1 b2 r1 r2 : Onto)
    (hterms : ∀ j, getT b1.terms j = getT b2.terms j)
    (hsmall1 : ∀ j, (getT b1.terms j).isSome → j < maxId)
    (hcount : ∀ k, (b1.recs k).length = (b2.recs k).length)
    (h1 : b1.calcIc = .ok r1) (h2 : b2.calcIc = .ok r2) :
    (∀ j, getT r1.terms j = getT r2.terms j) ∧
    (∀ d1 d2, r1.buildWithDefaults = .ok d1 → r2.buildWithDefaults = .ok d2 →
      d1.categories = d2.categories ∧ d1.modifier = d2.modifier ∧
      ∀ j, getT d1.terms j = getT d2.terms j) := by
  have t1 : r1.terms = b1.terms.map (icAll b1) := (calcIc_ok b1 r1 h1).1
  have t2 : r2.terms = b2.terms.map (icAll b2) := (calcIc_ok b2 r2 h2).1
  have hg := hcount .gene; have ho := hcount .omim; have hr := hcount .orpha
  simp only [Onto.recs] at hg ho hr
  have hT : ∀ j, getT r1.terms j = getT r2.terms j := by
    intro j
    rw [t1, t2, getT_map _ _ (icAll_id b1), getT_map _ _ (icAll_id b2), hterms j]
    unfold icAll
    rw [hg, ho, hr]
  refine ⟨hT, fun d1 d2 hd1 hd2 => ?_⟩
  -- `get` is `getT` below the id bound: equal lookups give equal `get`s, and the default groups
  -- are computed from `get 1` and `get 118`
  have hget : ∀ j, r1.get j = r2.get j := fun j => by
    rw [Onto.get, Onto.get, arenaGet, arenaGet, hT j]
  rw [buildWithDefaults_eq] at hd1 hd2
  rw [hget 1, hget Onto.phenotypeId] at hd1
  cases g1 : r2.get 1 with
  | none => rw [g1] at hd2; cases hd2
  | some root =>
    cases g2 : r2.get Onto.phenotypeId with
    | none => rw [g1, g2] at hd2; cases hd2
    | some ph =>
      rw [g1, g2] at hd1 hd2
      cases hd1; cases hd2
      exact ⟨rfl, rfl, hT⟩

/-! ### non-vacuity: the diamond of C01 from two different orders (and a repeated fact) -/

def tf : List TermFact := [⟨[], 9, false, none⟩, ⟨[], 3, false, none⟩, ⟨[], 7, false, none⟩, ⟨['x'], 5, false, none⟩]
def ef : List EdgeFact := [(9, 3), (9, 7), (3, 5), (7, 5)]

example : Functional tf := by unfold Functional; decide
example : tf.Perm tf.reverse ∧ ef.Perm ef.reverse := ⟨(List.reverse_perm tf).symm, (List.reverse_perm ef).symm⟩
example : ∃ o1 o2, runB (tf.map TermFact.op ++ ef.map edgeOp) {} = some o1 ∧
    runB (tf.reverse.map TermFact.op ++ ef.reverse.map edgeOp) {} = some o2 ∧
    o1.ids ≠ o2.ids ∧ getT o1.terms 5 = getT o2.terms 5 :=
  ⟨_, _, rfl, rfl, by decide, by decide⟩

end Hpo.C16
