import HpoProofs.LinkageClosed
/-!
# C17 — hierarchical clustering returns a valid dendrogram built from closest pairs

Clustering `n ≥ 2` sets yields `n − 1` merges that form a binary tree over the inputs (every input and every
cluster merged once, merge `k` addressable as `n + k`, sizes adding up, leaf order a permutation of `0..n`); every
merge joins the closest pair at the reported distance, and distances to a new cluster follow the method.
Property theorems only (model: `HpoModel/Linkage.lean`, mirroring `src/stats/linkage.rs`,
`src/stats/linkage/cluster.rs`; helper lemmas: `HpoProofs/Linkage.lean`, `HpoProofs/LinkageClosed.lean`).
`cluster m lt mean d members` is the model of `Linkage::{union, single, complete, average}` on the
input sets `members` with the distance callback `d`, over ANY numeric type `F` with ANY comparison
`lt` and mean `mean` (the driver runs it at `Float32`); `n = members.length` is unbounded.  The
bookkeeping theorems need no assumption on the distances at all (ties included); `C17_closest`
assumes a linear order, the closed forms a strict linear comparison; rounding of `f32` sums enters
through `mean` only and no theorem says what `mean` computes.

Not covered: which of several tied minima is merged (the code follows the iteration order of a `HashMap`;
`C17_closest` says that a minimum is, and the unique one when there is no tie); a closed form for average and
union linkage (the update rule is the definition: `C17_update_arith`, `C17_update_union`).
-/
namespace Hpo.C17
open Hpo.Linkage

variable {F : Type}

/-- the clustering never panics (every `expect`/index of the loops is justified) and the fuel
`n + 1` of the model suffices -/
theorem C17_total (m : Method) (lt : F → F → Bool) (mean : F → F → F)
    (d : List Nat → List Nat → F) (members : List (List Nat)) :
    ∃ sf, cluster m lt mean d members = some sf ∧ sf.dm = [] ∧ sf.n = members.length := by
  obtain ⟨sf, h⟩ := Option.isSome_iff_exists.1 (cluster_isSome m lt mean d members)
  obtain ⟨_, h3, h4, _⟩ := (cluster_run m lt mean d members).2 sf h
  exact ⟨sf, h, h3, h4⟩

/-- exactly `n − 1` merges -/
theorem C17_count (m : Method) (lt : F → F → Bool) (mean : F → F → F)
    (d : List Nat → List Nat → F) (members : List (List Nat)) (sf : State F)
    (h : cluster m lt mean d members = some sf) : sf.clusters.length = members.length - 1 := by
  obtain ⟨h2, h3, h4, _⟩ := (cluster_run m lt mean d members).2 sf h
  rw [← h4]; exact final_count sf h2 h3

/-- every input and every intermediate cluster — the indices `0 … 2n−3` — is merged exactly once
(occurs exactly once as `lhs` or `rhs`); the root `2n−2` and anything beyond never -/
theorem C17_each_once (m : Method) (lt : F → F → Bool) (mean : F → F → F)
    (d : List Nat → List Nat → F) (members : List (List Nat)) (sf : State F)
    (h : cluster m lt mean d members = some sf) (hn : 2 ≤ members.length) (i : Nat) :
    (mergedIdx sf.clusters).count i = if i < 2 * members.length - 2 then 1 else 0 := by
  obtain ⟨hm, hnd, _⟩ := final_bookkeeping m lt mean d members sf h hn
  split
  · rename_i hi
    exact List.count_eq_one_of_mem hnd ((hm i).2 hi)
  · rename_i hi
    exact List.count_eq_zero_of_not_mem (fun hc => hi ((hm i).1 hc))

/-- the `k`-th merge joins two distinct earlier entries: `lhs < rhs < n + k`, so the cluster it
creates is addressable as index `n + k` by later merges only -/
theorem C17_addressable (m : Method) (lt : F → F → Bool) (mean : F → F → F)
    (d : List Nat → List Nat → F) (members : List (List Nat)) (sf : State F)
    (h : cluster m lt mean d members = some sf) (k : Nat) (hk : k < sf.clusters.length) :
    sf.clusters[k].lhs < sf.clusters[k].rhs ∧ sf.clusters[k].rhs < members.length + k := by
  obtain ⟨h2, _, h4, _⟩ := (cluster_run m lt mean d members).2 sf h
  rw [← h4]; exact h2.addr k hk

/-- sizes add up: the size of every merge is the sum of the sizes of its two sides (1 for an
input, the recorded size for a cluster), and the last merge has size `n` -/
theorem C17_sizes (m : Method) (lt : F → F → Bool) (mean : F → F → F)
    (d : List Nat → List Nat → F) (members : List (List Nat)) (sf : State F)
    (h : cluster m lt mean d members = some sf) :
    (∀ k (hk : k < sf.clusters.length),
      sf.clusters[k].size = sz members.length sf.clusters sf.clusters[k].lhs
        + sz members.length sf.clusters sf.clusters[k].rhs) ∧
    (2 ≤ members.length → (sf.clusters.getLast?).map (·.size) = some members.length) := by
  obtain ⟨h2, _, h4, _⟩ := (cluster_run m lt mean d members).2 sf h
  constructor
  · intro k hk
    have ha := h2.addr k hk
    have hs := (mkCluster_fields (h2.sizes k hk)).2.2.2
    rw [sz_take _ _ _ _ (Nat.lt_trans ha.1 ha.2), sz_take _ _ _ _ ha.2] at hs
    rw [← h4]; exact hs
  · exact fun hn => (final_bookkeeping m lt mean d members sf h hn).2.2

/-- the reported leaf order (`Linkage::indicies`) is a permutation of `0..n` -/
theorem C17_leaf_order (m : Method) (lt : F → F → Bool) (mean : F → F → F)
    (d : List Nat → List Nat → F) (members : List (List Nat)) (sf : State F)
    (h : cluster m lt mean d members = some sf) (hn : 2 ≤ members.length) :
    (indicies sf.n sf.clusters).Perm (List.range members.length) := by
  obtain ⟨_, _, h4, _⟩ := (cluster_run m lt mean d members).2 sf h
  obtain ⟨hm, hnd, _⟩ := final_bookkeeping m lt mean d members sf h hn
  rw [indicies_eq, h4]
  apply (List.perm_ext_iff_of_nodup (hnd.filter _) List.nodup_range).2
  intro i
  simp only [List.mem_filter, hm i, decide_eq_true_eq, List.mem_range]
  have hle : members.length ≤ 2 * members.length - 2 :=
    Nat.le_sub_of_add_le (by rw [Nat.two_mul]; exact Nat.add_le_add_left hn _)
  exact ⟨fun h => h.2, fun h => ⟨Nat.lt_of_lt_of_le h hle, h⟩⟩

/-- initially the distance callback is asked exactly once, with each unordered pair of input sets
exactly once, in lexicographic order of their positions; the index pairs under which the answers
are stored are the pairs `i < j < n`, each once -/
theorem C17_callback_initial (m : Method) (lt : F → F → Bool) (mean : F → F → F)
    (d : List Nat → List Nat → F) (members : List (List Nat)) (sf : State F)
    (h : cluster m lt mean d members = some sf) :
    sf.log.head? = some (pairsLex members) ∧
    (indexPairs members.length).Nodup ∧
    (∀ q, q ∈ indexPairs members.length ↔ q.1 < q.2 ∧ q.2 < members.length) ∧
    (pairsLex members).length = (indexPairs members.length).length := by
  refine ⟨((cluster_run m lt mean d members).2 sf h).2.2.2.2, nodup_indexPairs _,
    mem_indexPairs _, ?_⟩
  rw [pairsLex_eq_map_indexPairs, List.length_map]

/-- Every merge joins the pair that is closest at that moment, at the reported distance:
`trace[k]` is the state in which the loop performs its `k`-th merge (there are exactly as many as
merges); its matrix holds exactly the pairs `i < j` of live entries (`KeysOK`), the clusters
recorded so far are the first `k` of the result, and the `k`-th recorded cluster `(lhs, rhs, dist)`
is an entry of that matrix whose distance is minimal.  For a tie-free matrix this entry is the
unique argmin (second part); among tied minima the code's choice follows the iteration order of a
`HashMap` and is not claimed. -/
theorem C17_closest [LinearOrder F] (m : Method) (lt : F → F → Bool)
    (hlt : ∀ a b, lt a b = true ↔ a < b) (mean : F → F → F)
    (d : List Nat → List Nat → F) (members : List (List Nat)) (sf : State F)
    (h : cluster m lt mean d members = some sf) :
    (trace (stepOf m lt mean d) (members.length + 1) (init d members)).length = sf.clusters.length ∧
    ∀ k sk, (trace (stepOf m lt mean d) (members.length + 1) (init d members))[k]? = some sk →
      sk.clusters = sf.clusters.take k ∧ KeysOK sk ∧
      ∃ c, sf.clusters[k]? = some c ∧ ((c.lhs, c.rhs), c.dist) ∈ sk.dm ∧
        (∀ e ∈ sk.dm, c.dist ≤ e.2) ∧
        ((∀ e ∈ sk.dm, ∀ e' ∈ sk.dm, e.2 = e'.2 → e = e') →
          ∀ e ∈ sk.dm, e ≠ ((c.lhs, c.rhs), c.dist) → c.dist < e.2) := by
  refine ⟨((cluster_run m lt mean d members).2 sf h).2.2.2.1, fun k sk hk => ?_⟩
  · obtain ⟨_, h3, c, h4, h5⟩ := cluster_trace h hk
    obtain ⟨hm, hmin⟩ := closest_min lt hlt sk.dm _ h5
    refine ⟨h3, ((cluster_run m lt mean d members).1 k sk hk).1.keys, c, h4, hm, hmin, ?_⟩
    intro htie e he hne
    rcases lt_or_eq_of_le (hmin e he) with hl | heq
    · exact hl
    · exact absurd (htie _ hm _ he heq).symm hne

/-- Distance update of `single`/`complete`/`average` (one iteration of `arithmetic_cluster(func)`
in any state): after merging the closest pair `(a, b)` into the new entry `new = sets.len()`, every
remaining live entry `i` gets `D(i, new) = func(D(i, a), D(i, b))` — both old distances exist,
looked up under the `(smaller, larger)` key — and every distance between untouched entries is kept. -/
theorem C17_update_arith (lt : F → F → Bool) (func : F → F → F) (s s' : State F)
    (h : arithStep lt func s = some s') :
    ∃ a b d, closest lt s.dm = some ((a, b), d) ∧
      (∀ i, isLive s.sets i = true → i ≠ a → i ≠ b →
        ∃ v1 v2, dmGet s.dm (keyOf i a) = some v1 ∧ dmGet s.dm (keyOf i b) = some v2 ∧
          dmGet s'.dm (i, s.sets.length) = some (func v1 v2)) ∧
      (∀ q : Nat × Nat, q.1 ≠ a → q.1 ≠ b → q.2 ≠ a → q.2 ≠ b → q.2 ≠ s.sets.length →
        dmGet s'.dm q = dmGet s.dm q) :=
  arithStep_update lt func s s' h

/-- single linkage: `func` is the minimum of the two parts -/
theorem C17_update_single [LinearOrder F] (lt : F → F → Bool) (hlt : ∀ a b, lt a b = true ↔ a < b)
    (v1 v2 : F) : fmin lt v1 v2 = min v1 v2 := by
  unfold fmin
  by_cases h : v1 < v2
  · rw [if_pos ((hlt _ _).2 h), min_eq_left (le_of_lt h)]
  · have : ¬ lt v1 v2 = true := fun hc => h ((hlt _ _).1 hc)
    rw [if_neg this, min_eq_right (not_lt.1 h)]

/-- complete linkage: `func` is the maximum of the two parts -/
theorem C17_update_complete [LinearOrder F] (lt : F → F → Bool) (hlt : ∀ a b, lt a b = true ↔ a < b)
    (v1 v2 : F) : fmax lt v1 v2 = max v1 v2 :=
  C17_update_single (F := Fᵒᵈ) (fun x y => lt y x) (fun a b => hlt b a) v1 v2

/-- average linkage as implemented: `func` is the caller's `mean` of the two parts (the mean of the
two direct cluster nodes, `(v1 + v2) / 2` in the code — not weighted by cluster sizes), i.e. the
step function of `Method.average` is `arithStep` with `mean`; single and complete use `fmin`/`fmax`,
union the callback on the merged set -/
theorem C17_update_average (lt : F → F → Bool) (mean : F → F → F) (d : List Nat → List Nat → F) :
    stepOf .average lt mean d = arithStep lt mean ∧
    stepOf .single lt mean d = arithStep lt (fmin lt) ∧
    stepOf .complete lt mean d = arithStep lt (fmax lt) ∧
    stepOf .union lt mean d = unionStep lt d :=
  ⟨rfl, rfl, rfl, rfl⟩

/-- union linkage (one iteration of `cluster_set_unions` in any state):
the two closest sets `x = sets[a]`, `y = sets[b]` are replaced by their union (`extend`) appended as
the new last entry `new = sets.len()`, the distance callback is called exactly once, with the pairs
`(union, live entry)` in index order followed by `(union, union)`, and afterwards the matrix holds,
for every live entry `i` other than the two merged ones, the callback's value `d (x ∪ y) setᵢ`
under the key `(i, new)`; every entry whose key touches neither `a`, `b` nor `new` is unchanged
(the keys touching `a` or `b` are gone and there are no others: `KeysOK` in `C17_closest`). -/
theorem C17_update_union (lt : F → F → Bool) (d : List Nat → List Nat → F) (s s' : State F)
    (h : unionStep lt d s = some s') :
    ∃ a b dist x y, closest lt s.dm = some ((a, b), dist) ∧
      (s.sets[a]?).join = some x ∧ (s.sets[b]?).join = some y ∧
      s'.sets = takeTwo s.sets a b ++ [some (Group.insertAll x y)] ∧
      s'.log = s.log ++ [rowPairs (Group.insertAll x y)
        (takeTwo s.sets a b ++ [some (Group.insertAll x y)])] ∧
      (∀ i si, s.sets[i]? = some (some si) → i ≠ a → i ≠ b →
        dmGet s'.dm (i, s.sets.length) = some (d (Group.insertAll x y) si)) ∧
      (∀ q : Nat × Nat, q.1 ≠ a → q.1 ≠ b → q.2 ≠ a → q.2 ≠ b → q.2 ≠ s.sets.length →
        dmGet s'.dm q = dmGet s.dm q) := by
  obtain ⟨a, b, dist, c, m, he, hc, hlt, hm, rfl⟩ := (unionStep_eq_some_iff ..).1 h
  obtain ⟨x, y, hx, hy, rfl⟩ := (mergeSets_eq_some_iff ..).1 hm
  refine ⟨a, b, dist, x, y, he, hx, hy, rfl, rfl, fun i si hi hia hib => ?_,
    fun q h1 h2 h3 h4 h5 => ?_⟩
  · exact dmGet_zipInsert_map (dmRetain a b s.dm) (live (takeTwo s.sets a b) 0)
      (fun e => (e.1, s.sets.length)) (fun e => d (Group.insertAll x y) e.2) _
      (List.prefix_append _ _) (nodup_live_keys _ _ _) (i, si)
      ((mem_live_takeTwo ..).2 ⟨hi, hia, hib⟩)
  · simp only
    rw [dmGet_zipInsert_of_not_mem, dmGet_dmRetain, if_pos ⟨h1, h2, h3, h4⟩]
    intro hq
    obtain ⟨e, _, rfl⟩ := List.mem_map.1 hq
    exact h5 rfl

/-- every state in which a merge is performed satisfies the invariant (in particular its matrix
holds exactly the pairs of live entries), so the update theorems apply to every merge of a run -/
theorem C17_trace_inv (m : Method) (lt : F → F → Bool) (mean : F → F → F)
    (d : List Nat → List Nat → F) (members : List (List Nat)) (sf : State F)
    (h : cluster m lt mean d members = some sf) (k : Nat) (sk : State F)
    (hk : (trace (stepOf m lt mean d) (members.length + 1) (init d members))[k]? = some sk) :
    Inv sk ∧ sk.dm ≠ [] ∧ sk.n = members.length := by
  obtain ⟨h1, h2, _⟩ := (cluster_run m lt mean d members).1 k sk hk
  exact ⟨h1, (cluster_trace h hk).1, h2⟩

/-- Closed form of single linkage, for ANY strict linear comparison `lt` (irreflexive, transitive,
total — the three hypotheses; no other structure on `F`): in the state before the `k`-th merge the
stored distance `v` of any two live entries `i < j` is the MINIMUM of the input distances
`leafDist a b` over all pairs of leaves `a` below `i`, `b` below `j` — it is one of them and none is
`lt`-smaller —, and the distance recorded for the `k`-th merge is the minimum over the leaves of its
two sides.  Leaf sets are those of the final dendrogram (`C17_dendrogram`). -/
theorem C17_single_closed_form (lt : F → F → Bool) (hirr : ∀ a, lt a a = false)
    (htrans : ∀ a b c, lt a b = true → lt b c = true → lt a c = true)
    (htot : ∀ a b, lt a b = true ∨ a = b ∨ lt b a = true)
    (mean : F → F → F) (d : List Nat → List Nat → F) (members : List (List Nat)) (sf : State F)
    (h : cluster .single lt mean d members = some sf) (k : Nat) (sk : State F)
    (hk : (trace (stepOf .single lt mean d) (members.length + 1) (init d members))[k]? = some sk) :
    (∀ i j, i < j → isLive sk.sets i = true → isLive sk.sets j = true →
      ∃ v, dmGet sk.dm (i, j) = some v ∧
        (∃ a ∈ leaves members.length sf.clusters i, ∃ b ∈ leaves members.length sf.clusters j,
          v = leafDist d members a b) ∧
        (∀ a ∈ leaves members.length sf.clusters i, ∀ b ∈ leaves members.length sf.clusters j,
          lt (leafDist d members a b) v = false)) ∧
    ∃ c, sf.clusters[k]? = some c ∧
      (∃ a ∈ leaves members.length sf.clusters c.lhs, ∃ b ∈ leaves members.length sf.clusters c.rhs,
        c.dist = leafDist d members a b) ∧
      (∀ a ∈ leaves members.length sf.clusters c.lhs, ∀ b ∈ leaves members.length sf.clusters c.rhs,
        lt (leafDist d members a b) c.dist = false) :=
  closed_form .single lt lt mean d rfl hirr htrans htot members sf h k sk hk

/-- Closed form of complete linkage (same hypotheses): the stored distance of two live entries is
the MAXIMUM of the input distances over all pairs of leaves — it is one of them and it is
`lt`-smaller than none —, and so is the distance recorded for the `k`-th merge. -/
theorem C17_complete_closed_form (lt : F → F → Bool) (hirr : ∀ a, lt a a = false)
    (htrans : ∀ a b c, lt a b = true → lt b c = true → lt a c = true)
    (htot : ∀ a b, lt a b = true ∨ a = b ∨ lt b a = true)
    (mean : F → F → F) (d : List Nat → List Nat → F) (members : List (List Nat)) (sf : State F)
    (h : cluster .complete lt mean d members = some sf) (k : Nat) (sk : State F)
    (hk : (trace (stepOf .complete lt mean d) (members.length + 1) (init d members))[k]? = some sk) :
    (∀ i j, i < j → isLive sk.sets i = true → isLive sk.sets j = true →
      ∃ v, dmGet sk.dm (i, j) = some v ∧
        (∃ a ∈ leaves members.length sf.clusters i, ∃ b ∈ leaves members.length sf.clusters j,
          v = leafDist d members a b) ∧
        (∀ a ∈ leaves members.length sf.clusters i, ∀ b ∈ leaves members.length sf.clusters j,
          lt v (leafDist d members a b) = false)) ∧
    ∃ c, sf.clusters[k]? = some c ∧
      (∃ a ∈ leaves members.length sf.clusters c.lhs, ∃ b ∈ leaves members.length sf.clusters c.rhs,
        c.dist = leafDist d members a b) ∧
      (∀ a ∈ leaves members.length sf.clusters c.lhs, ∀ b ∈ leaves members.length sf.clusters c.rhs,
        lt c.dist (leafDist d members a b) = false) :=
  closed_form .complete lt (fun x y => lt y x) mean d rfl hirr
    (fun a b c h1 h2 => htrans c b a h2 h1)
    (fun a b => (htot b a).imp_right (Or.imp_left Eq.symm)) members sf h k sk hk

/-- the input distance of the closed forms is the callback on the two inputs when the callback is
symmetric (the property's quantifier), and it is symmetric in any case -/
theorem C17_leafDist (d : List Nat → List Nat → F) (members : List (List Nat)) (a b : Nat) :
    leafDist d members a b = leafDist d members b a ∧
    ((∀ x y, d x y = d y x) →
      leafDist d members a b = d (members[a]?.getD []) (members[b]?.getD [])) :=
  ⟨leafDist_comm d members a b, fun hd => leafDist_of_symm d hd members a b⟩

/-- the "initial distances" of the closed forms: `Linkage::new` stores under `(i, j)`, `i < j < n`,
the callback's answer for the `i`-th and `j`-th input, which is `leafDist i j` -/
theorem C17_initial_distance (d : List Nat → List Nat → F) (members : List (List Nat)) (i j : Nat)
    (hij : i < j) (hj : j < members.length) :
    dmGet (init d members).dm (i, j) = some (leafDist d members i j) ∧
    leafDist d members i j = d (members[i]?.getD []) (members[j]?.getD []) :=
  ⟨leafDist_of_lt d members hij ▸ init_dmGet d members i j hij hj, leafDist_of_lt d members hij⟩

/-- every linear order (in Mathlib's sense) that `lt` decides satisfies the three order hypotheses
of the closed forms -/
theorem C17_order_hyps [LinearOrder F] (lt : F → F → Bool) (hlt : ∀ a b, lt a b = true ↔ a < b) :
    (∀ a, lt a a = false) ∧
    (∀ a b c, lt a b = true → lt b c = true → lt a c = true) ∧
    (∀ a b, lt a b = true ∨ a = b ∨ lt b a = true) := by
  refine ⟨?_, ?_, ?_⟩
  · intro a
    cases h : lt a a
    · rfl
    · exact absurd ((hlt a a).1 h) (lt_irrefl a)
  · intro a b c h1 h2
    exact (hlt a c).2 (lt_trans ((hlt a b).1 h1) ((hlt b c).1 h2))
  · intro a b
    rcases lt_trichotomy a b with h | h | h
    · exact Or.inl ((hlt a b).2 h)
    · exact Or.inr (Or.inl h)
    · exact Or.inr (Or.inr ((hlt b a).2 h))

/-- The merges form a binary tree over the inputs (`n ≥ 2`, all methods, any distances): there are
`n − 1` merges, merge `k` creating index `n + k`; every index below the root `2n − 2` is the child
(`lhs` or `rhs`) of exactly one merge, and that merge comes later (`i < n + k`); the two children of
a merge differ and the root is nobody's child; the leaf set of an input is itself, that of cluster
`n + k` is the leaf set of its `lhs` followed by that of its `rhs` and has the recorded size; and
the leaf set of the last merge — the root — is all of `0..n` (each input once). -/
theorem C17_dendrogram (m : Method) (lt : F → F → Bool) (mean : F → F → F)
    (d : List Nat → List Nat → F) (members : List (List Nat)) (sf : State F)
    (h : cluster m lt mean d members = some sf) (hn : 2 ≤ members.length) :
    sf.clusters.length = members.length - 1 ∧
    (∀ i, i < 2 * members.length - 2 →
      ∃ k, ∃ hk : k < sf.clusters.length,
        (sf.clusters[k].lhs = i ∨ sf.clusters[k].rhs = i) ∧ i < members.length + k ∧
        ∀ k' (hk' : k' < sf.clusters.length),
          (sf.clusters[k'].lhs = i ∨ sf.clusters[k'].rhs = i) → k' = k) ∧
    (∀ k (hk : k < sf.clusters.length), sf.clusters[k].lhs ≠ sf.clusters[k].rhs ∧
      sf.clusters[k].lhs < 2 * members.length - 2 ∧ sf.clusters[k].rhs < 2 * members.length - 2) ∧
    (∀ i, i < members.length → leaves members.length sf.clusters i = [i]) ∧
    (∀ k (hk : k < sf.clusters.length),
      leaves members.length sf.clusters (members.length + k) =
        leaves members.length sf.clusters sf.clusters[k].lhs ++
          leaves members.length sf.clusters sf.clusters[k].rhs ∧
      (leaves members.length sf.clusters (members.length + k)).length = sf.clusters[k].size) ∧
    (leaves members.length sf.clusters (2 * members.length - 2)).Perm
      (List.range members.length) := by
  have hcount := C17_count m lt mean d members sf h
  have haddr := C17_addressable m lt mean d members sf h
  have hsizes := (C17_sizes m lt mean d members sf h).1
  obtain ⟨hmem, hnd, _⟩ := final_bookkeeping m lt mean d members sf h hn
  refine ⟨hcount, ?_, ?_, fun i hi => leaves_input _ _ _ hi, ?_,
    final_root m lt mean d members sf h hn⟩
  · intro i hi
    obtain ⟨k, hk, hc⟩ := (mem_mergedIdx sf.clusters i).1 ((hmem i).2 hi)
    refine ⟨k, hk, hc, ?_, ?_⟩
    · have := haddr k hk
      rcases hc with hc | hc
      · exact hc ▸ Nat.lt_trans this.1 this.2
      · exact hc ▸ this.2
    · intro k' hk' hc'
      exact mergedIdx_unique sf.clusters hnd i k' k hk' hk hc' hc
  · intro k hk
    have := haddr k hk
    refine ⟨Nat.ne_of_lt this.1, ?_, ?_⟩
    · exact (hmem _).1 ((mem_mergedIdx sf.clusters _).2 ⟨k, hk, Or.inl rfl⟩)
    · exact (hmem _).1 ((mem_mergedIdx sf.clusters _).2 ⟨k, hk, Or.inr rfl⟩)
  · intro k hk
    have := haddr k hk
    refine ⟨leaves_cluster _ _ k hk (Nat.lt_trans this.1 this.2) this.2, ?_⟩
    rw [length_leaves members.length sf.clusters
      (fun k hk => ⟨Nat.lt_trans (haddr k hk).1 (haddr k hk).2, (haddr k hk).2⟩) hsizes _
      (Nat.add_lt_add_left hk _), sz_cluster _ _ _ hk]

/-! ### non-vacuity -/

/-- four inputs, single linkage over `Nat` distances: the model merges (0,1) at 1, (2,3) at 2 and
the two clusters (4,5) at `min` = 5 -/
example :
    ((cluster .single (fun a b : Nat => decide (a < b)) (fun a b => (a + b) / 2)
        (fun a b => match a, b with
          | [0], [1] => 1 | [2], [3] => 2 | [0], [2] => 5 | [0], [3] => 7 | [1], [2] => 6 | _, _ => 9)
        [[0], [1], [2], [3]]).map fun s =>
      (s.clusters.map fun c => (c.lhs, c.rhs, c.dist, c.size), indicies s.n s.clusters))
    = some ([(0, 1, 1, 2), (2, 3, 2, 2), (4, 5, 5, 4)], [0, 1, 2, 3]) := by
  decide

/-- the order hypothesis of `C17_closest` / `C17_update_single` is satisfiable (here: `Nat`) -/
example : ∀ a b : Nat, (decide (a < b) = true ↔ a < b) := by simp

/-- average linkage on four inputs with an exact mean over `Nat` (even distances): after merging
(0,1) at 2 the distances of the new entry 4 are the means (8+12)/2 = 10 and (10+14)/2 = 12 -/
example :
    ((cluster .average (fun a b : Nat => decide (a < b)) (fun a b => (a + b) / 2)
        (fun a b => match a, b with
          | [0], [1] => 2 | [2], [3] => 4 | [0], [2] => 8 | [0], [3] => 10 | [1], [2] => 12 | _, _ => 14)
        [[0], [1], [2], [3]]).map fun s =>
      s.clusters.map fun c => (c.lhs, c.rhs, c.dist, c.size))
    = some [(0, 1, 2, 2), (2, 3, 4, 2), (4, 5, 11, 4)] := by
  decide

/-- the three order hypotheses of the closed forms are satisfiable (here: `<` on `Nat`) -/
example : (∀ a : Nat, decide (a < a) = false) ∧
    (∀ a b c : Nat, decide (a < b) = true → decide (b < c) = true → decide (a < c) = true) ∧
    (∀ a b : Nat, decide (a < b) = true ∨ a = b ∨ decide (b < a) = true) := by
  simp only [decide_eq_true_eq, decide_eq_false_iff_not]
  exact ⟨Nat.lt_irrefl, fun _ _ _ => Nat.lt_trans, Nat.lt_trichotomy⟩

/-- the closed forms on the four-input example above: the last merge joins the clusters 4 = {0, 1}
and 5 = {2, 3}; single linkage reports min {5, 7, 6, 9} = 5, complete linkage max = 9; the leaf
set of the root 6 is `[0, 1, 2, 3]` -/
example :
    let dd : List Nat → List Nat → Nat := fun a b => match a, b with
      | [0], [1] => 1 | [2], [3] => 2 | [0], [2] => 5 | [0], [3] => 7 | [1], [2] => 6 | _, _ => 9
    let lt : Nat → Nat → Bool := fun a b => decide (a < b)
    let mem : List (List Nat) := [[0], [1], [2], [3]]
    ((cluster .single lt (fun a b => (a + b) / 2) dd mem).map fun s =>
      (s.clusters.map (·.dist), leaves 4 s.clusters 4, leaves 4 s.clusters 5, leaves 4 s.clusters 6))
      = some ([1, 2, 5], [0, 1], [2, 3], [0, 1, 2, 3]) ∧
    ((cluster .complete lt (fun a b => (a + b) / 2) dd mem).map fun s =>
      (s.clusters.map (·.dist), leaves 4 s.clusters 4, leaves 4 s.clusters 5)) =
      some ([1, 2, 9], [0, 1], [2, 3]) ∧
    [leafDist dd mem 0 2, leafDist dd mem 0 3, leafDist dd mem 1 2, leafDist dd mem 3 1] = [5, 7, 6, 9] := by
  decide

/-- union linkage: the hypothesis of `C17_update_union` is satisfiable — one step on three inputs
merges the closest pair (0, 1) and stores the callback's value for (union, set₂) under (2, 3) -/
example :
    ((unionStep (fun a b : Nat => decide (a < b)) (fun a b => a.length * 10 + b.length + b.head!)
        (init (fun a b => a.head! + b.head!) [[1], [2], [7]])).map fun s => (s.sets, s.dm))
    = some ([none, none, some [7], some [1, 2]], [((2, 3), 28)]) := by
  decide

end Hpo.C17
