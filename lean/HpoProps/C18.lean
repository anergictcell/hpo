import HpoProofs.Compare
import HpoProps.C07
/-!
# C18 — ontology comparison reports exactly the differences

`Comparison` of an old and a new ontology reports as added / removed exactly what is in one of them only, as
changed exactly what is in both and differs, with the exact lists; nothing for `(o, o)` and for `o` against its
binary round trip; swapping the arguments swaps added with removed.
Property theorems only (helper lemmas: `HpoProofs/Compare.lean`, model: `HpoModel/Compare.lean`).
`l` = old (lhs), `r` = new (rhs).  Explicit, decidable hypotheses:
  `KeysOk o`          every arena term is the one its id resolves to (unique ids inside the id table)
  `RecKeysOk rs`      one record per id (a `HashMap`)
  `ParentsResolve o`  every direct parent id is a term (otherwise `parents()` panics, and so does
                      `changed_hpo_terms`: modelled; such ontologies are outside the property and
                      the correspondence check does not generate them)
  `hl`, `hr` of `C18_added_removed_ids`: term ids are below 10^7, the bound by which the lookup `Onto.get`
                      differs from membership in `o.ids`
Every `Reachable` ontology (C07) satisfies all of them, but no theorem derives them from `Reachable`.
Reading of "replacement" (as the code has it): `replaced_by().map(id)`, the replacement id RESOLVED in
the term's own ontology (`replId`); a replacement id that is not a term reads `None`.
No bound on the size of the ontologies.
-/
namespace Hpo.C18
open Hpo.Group Hpo.Compare

/-- added = in the new ontology and not resolvable in the old one, removed = the converse — for
terms and for the three record kinds -/
theorem C18_added_removed (l r : Onto) :
    (∀ t, t ∈ addedTerms l r ↔ t ∈ r.terms ∧ l.get t.id = none) ∧
    (∀ t, t ∈ removedTerms l r ↔ t ∈ l.terms ∧ r.get t.id = none) ∧
    (∀ k x, x ∈ addedRecs k l r ↔ x ∈ r.recs k ∧ getR (l.recs k) x.id = none) ∧
    (∀ k x, x ∈ removedRecs k l r ↔ x ∈ l.recs k ∧ getR (r.recs k) x.id = none) := by
  simp only [addedTerms, removedTerms, addedRecs, removedRecs, List.mem_filter, Option.isNone_iff_eq_none,
    implies_true, and_self]

/-- as sets of ids: exactly the ids present in only one of the two (ids of the id table) -/
theorem C18_added_removed_ids (l r : Onto)
    (hl : ∀ t ∈ l.terms, t.id < maxId) (hr : ∀ t ∈ r.terms, t.id < maxId) (i : Nat) :
    (i ∈ (addedTerms l r).map (·.id) ↔ i ∈ r.ids ∧ i ∉ l.ids) ∧
    (i ∈ (removedTerms l r).map (·.id) ↔ i ∈ l.ids ∧ i ∉ r.ids) ∧
    (∀ k, (i ∈ (addedRecs k l r).map (·.id) ↔ i ∈ (r.recs k).map (·.id) ∧ i ∉ (l.recs k).map (·.id)) ∧
          (i ∈ (removedRecs k l r).map (·.id) ↔ i ∈ (l.recs k).map (·.id) ∧ i ∉ (r.recs k).map (·.id))) := by
  have key : ∀ (a b : Onto), (∀ t ∈ b.terms, t.id < maxId) →
      (i ∈ (b.terms.filter fun t => (a.get t.id).isNone).map (·.id) ↔ i ∈ b.ids ∧ i ∉ a.ids) :=
    fun a b hb => mem_absent_keys _ a.get a.ids b.terms (fun t ht => Onto.get_eq_none (hb t ht)) i
  have keyR : ∀ (a b : List Rec),
      (i ∈ (b.filter fun x => (getR a x.id).isNone).map (·.id) ↔ i ∈ b.map (·.id) ∧ i ∉ a.map (·.id)) :=
    fun a b => mem_absent_keys _ (getR a) _ b (fun x _ => getR_none_iff a x.id) i
  exact ⟨key l r hr, key r l hl, fun k => ⟨keyR (l.recs k) (r.recs k), keyR (r.recs k) (l.recs k)⟩⟩

/-- changed terms: a delta is reported exactly for the terms present in both ontologies that differ in
name, direct parent set, obsolete flag or (resolved) replacement; the delta carries the old/new
values and the exact parent differences -/
theorem C18_changed_terms (l r : Onto) (hl : ParentsResolve l) (hr : ParentsResolve r) :
    ∃ ds, changedTerms l r = .ok ds ∧
      ∀ d, d ∈ ds ↔ ∃ tl ∈ l.terms, ∃ tr, r.get tl.id = some tr ∧ d = delta l r tl tr ∧
        (tl.name ≠ tr.name ∨ ¬ (∀ p, p ∈ tl.parents ↔ p ∈ tr.parents) ∨ tl.obsolete ≠ tr.obsolete ∨
          replId l tl ≠ replId r tr) :=
  ⟨_, changedFold_eq l r hr l.terms hl, mem_changedFold l r l.terms⟩

/-- the content of a term delta: id, (old, new) name / obsolete / replacement, added parents =
new \ old, removed parents = old \ new (both strictly ascending), and the accessors return `None`
exactly for an unchanged component -/
theorem C18_term_delta (l r : Onto) (tl tr : Term) :
    (delta l r tl tr).id = tl.id ∧
    (delta l r tl tr).names = (tl.name, tr.name) ∧
    (delta l r tl tr).obsolete = (tl.obsolete, tr.obsolete) ∧
    (delta l r tl tr).replacement = (replId l tl, replId r tr) ∧
    (∀ p, p ∈ (delta l r tl tr).addedParents ↔ p ∈ tr.parents ∧ p ∉ tl.parents) ∧
    (∀ p, p ∈ (delta l r tl tr).removedParents ↔ p ∈ tl.parents ∧ p ∉ tr.parents) ∧
    Sorted (delta l r tl tr).addedParents ∧ Sorted (delta l r tl tr).removedParents ∧
    ((delta l r tl tr).changedName = none ↔ tl.name = tr.name) ∧
    ((delta l r tl tr).addedParents? = none ↔ ∀ p ∈ tr.parents, p ∈ tl.parents) ∧
    ((delta l r tl tr).removedParents? = none ↔ ∀ p ∈ tl.parents, p ∈ tr.parents) ∧
    ((delta l r tl tr).changedObsolete = none ↔ tl.obsolete = tr.obsolete) ∧
    ((delta l r tl tr).changedReplacement = none ↔ replId l tl = replId r tr) :=
  ⟨rfl, rfl, rfl, rfl, mem_diff_ofList _ _, mem_diff_ofList _ _, sorted_diff _ _ (sorted_ofList _),
    sorted_diff _ _ (sorted_ofList _), ite_none_iff _,
    addedParents?_none l r tl tr, removedParents?_none l r tl tr,
    ite_none_iff _, ite_none_iff _⟩

/-- changed genes / diseases: a delta exactly for the records present in both that differ in name or
in their direct term set; it carries old/new name, the sizes, added = new \ old, removed = old \ new -/
theorem C18_changed_annotations (k : Kind) (l r : Onto) (d : AnnDelta) :
    (d ∈ changedRecs k l r ↔
      ∃ a ∈ l.recs k, ∃ b, getR (r.recs k) a.id = some b ∧ d = mkAnnDelta a b ∧
        (a.name ≠ b.name ∨ ¬ (∀ t, t ∈ a.hpos ↔ t ∈ b.hpos))) ∧
    ∀ a b : Rec,
      (mkAnnDelta a b).id = a.id ∧ (mkAnnDelta a b).names = (a.name, b.name) ∧
      (mkAnnDelta a b).nTerms = (a.hpos.length, b.hpos.length) ∧
      (∀ t, t ∈ (mkAnnDelta a b).addedTerms ↔ t ∈ b.hpos ∧ t ∉ a.hpos) ∧
      (∀ t, t ∈ (mkAnnDelta a b).removedTerms ↔ t ∈ a.hpos ∧ t ∉ b.hpos) :=
  ⟨mem_changedRecs k l r d, fun _ _ =>
    ⟨rfl, rfl, rfl, fun t => mem_diff _ _ t, fun t => mem_diff _ _ t⟩⟩

/-- comparing an ontology with itself reports nothing -/
theorem C18_self (o : Onto) (hk : KeysOk o) (hp : ParentsResolve o)
    (hg : ∀ k, RecKeysOk (o.recs k)) :
    addedTerms o o = [] ∧ removedTerms o o = [] ∧ changedTerms o o = .ok [] ∧
    ∀ k, addedRecs k o o = [] ∧ removedRecs k o o = [] ∧ changedRecs k o o = [] := by
  have hterms : o.terms.filter (fun t => (o.get t.id).isNone) = [] :=
    List.filter_eq_nil_iff.2 fun t ht => by simp [hk t ht]
  refine ⟨hterms, hterms, ?_, fun k => ?_⟩
  · rw [changedTerms, changedFold_eq o o hp o.terms hp]
    congr
    refine List.eq_nil_iff_forall_not_mem.2 fun d hd => ?_
    obtain ⟨tl, h1, tr, h2, _, h4⟩ := (mem_changedFold o o o.terms d).1 hd
    rw [hk tl h1] at h2
    cases h2
    exact not_differ_self o tl h4
  · have hrecs : (o.recs k).filter (fun x => (getR (o.recs k) x.id).isNone) = [] :=
      List.filter_eq_nil_iff.2 fun x hx => by simp [hg k x hx]
    refine ⟨hrecs, hrecs, List.eq_nil_iff_forall_not_mem.2 fun d hd => ?_⟩
    obtain ⟨a, h1, b, h2, _, h4⟩ := (mem_changedRecs k o o d).1 hd
    rw [hg k a h1] at h2
    cases h2
    exact not_annDiffer_self a h4

/-- swapping the arguments swaps added with removed (as the same lists) and mirrors every delta:
the changed ids are the same, old and new values (and added/removed parents or terms) trade places -/
theorem C18_swap (l r : Onto) (hkl : KeysOk l) (hkr : KeysOk r)
    (hpl : ParentsResolve l) (hpr : ParentsResolve r)
    (hgl : ∀ k, RecKeysOk (l.recs k)) (hgr : ∀ k, RecKeysOk (r.recs k)) :
    addedTerms l r = removedTerms r l ∧ removedTerms l r = addedTerms r l ∧
    (∀ k, addedRecs k l r = removedRecs k r l ∧ removedRecs k l r = addedRecs k r l) ∧
    (∃ ds ds', changedTerms l r = .ok ds ∧ changedTerms r l = .ok ds' ∧
      ∀ d, d ∈ ds ↔ d.swap ∈ ds') ∧
    (∀ k d, d ∈ changedRecs k l r ↔ d.swap ∈ changedRecs k r l) := by
  refine ⟨rfl, rfl, fun k => ⟨rfl, rfl⟩, ?_, ?_⟩
  · obtain ⟨ds, hds, hmem⟩ := C18_changed_terms l r hpl hpr
    obtain ⟨ds', hds', hmem'⟩ := C18_changed_terms r l hpr hpl
    refine ⟨ds, ds', hds, hds', ?_⟩
    have half : ∀ (a b : Onto), KeysOk a → ∀ d,
        (∃ ta ∈ a.terms, ∃ tb, b.get ta.id = some tb ∧ d = delta a b ta tb ∧ Differ a b ta tb) →
        (∃ tb ∈ b.terms, ∃ ta, a.get tb.id = some ta ∧ d.swap = delta b a tb ta ∧ Differ b a tb ta) := by
      rintro a b hka d ⟨ta, h1, tb, h2, rfl, h4⟩
      have hid := Onto.get_id h2
      exact ⟨tb, Onto.get_mem h2, ta, hka.get_iff.2 ⟨h1, hid.symm⟩, (delta_swap a b ta tb hid).symm,
        h4.symm⟩
    intro d
    rw [hmem, hmem']
    constructor
    · exact half l r hkl d
    · intro h
      have := half r l hkr d.swap h
      rwa [TermDelta.swap_swap] at this
  · intro k d
    have half : ∀ (a b : Onto), RecKeysOk (a.recs k) → ∀ d,
        d ∈ changedRecs k a b → d.swap ∈ changedRecs k b a := by
      intro a b hka d hd
      obtain ⟨x, h1, y, h2, rfl, h4⟩ := (mem_changedRecs k a b d).1 hd
      have hid := getR_id h2
      exact (mem_changedRecs k b a _).2 ⟨y, getR_mem h2, x, hka.get_iff.2 ⟨h1, hid.symm⟩,
        (mkAnnDelta_swap x y hid).symm, h4.symm⟩
    constructor
    · exact half l r (hgl k) d
    · intro h
      have := half r l (hgr k) d.swap h
      rwa [AnnDelta.swap_swap] at this

/-- Comparing an ontology with its binary round trip reports nothing. For every `Reachable` ontology (C07: what
every public constructor returns, `C07_reachable_constructors`) that is encodable, whose term and gene names fit
the 255-byte limit and whose arena slot 0 holds the placeholder (`hs`: the format does not store slot 0 and
`Reachable` says nothing about it), `from_bytes(as_bytes(o))` *is* `o` (`C07_roundtrip_identity`), so the
comparison is the self-comparison of `C18_self`. `hk`, `hp`, `hg` follow from `Reachable o` (its fields `nodup`
with `small`, `closedP`, `recNodup`); no lemma derives them, so they are hypotheses here. -/
theorem C18_roundtrip (o : Onto) (hr : Hpo.Binary.Reachable o) (he : Hpo.Binary.EncOK o)
    (hs : o.slot0 = placeholder) (ht : ∀ t ∈ o.terms, (Proto.utf8 t.name).length ≤ 255)
    (hgn : ∀ r ∈ o.genes, (Proto.utf8 r.name).length ≤ 255)
    (hk : KeysOk o) (hp : ParentsResolve o) (hg : ∀ k, RecKeysOk (o.recs k)) :
    ∃ o', Hpo.Binary.decodeBytes (Hpo.Binary.encodeOnto o) = .ok o' ∧
      addedTerms o o' = [] ∧ removedTerms o o' = [] ∧ changedTerms o o' = .ok [] ∧
      ∀ k, addedRecs k o o' = [] ∧ removedRecs k o o' = [] ∧ changedRecs k o o' = [] :=
  ⟨o, Hpo.C07.C07_roundtrip_identity o hr he hs ht hgn, C18_self o hk hp hg⟩

/-! ### non-vacuity: two small ontologies that differ by a rename, a parent, an obsolete flag with a
replacement, an added term, a removed gene and a changed disease -/

def exL : Onto :=
  { terms := [
      { id := 1, name := ['a'], children := [118] },
      { id := 118, name := ['b'], parents := [1], allParents := [1], children := [7] },
      { id := 7, name := ['c'], parents := [118], allParents := [1, 118] },
      { id := 9, name := ['d'], parents := [1], allParents := [1], replacement := some 999 }],
    genes := [{ id := 1, name := ['g'], hpos := [7] }, { id := 2, name := ['h'], hpos := [9] }],
    omim := [{ id := 3, name := ['o'], hpos := [7] }] }

def exR : Onto :=
  { terms := [
      { id := 1, name := ['a'], children := [118, 7] },
      { id := 118, name := ['B'], parents := [1], allParents := [1], children := [7] },
      { id := 7, name := ['c'], parents := [1, 118], allParents := [1, 118] },
      { id := 9, name := ['d'], parents := [1], allParents := [1], obsolete := true, replacement := some 7 },
      { id := 10, name := ['e'] }],
    genes := [{ id := 1, name := ['g'], hpos := [7] }],
    omim := [{ id := 3, name := ['o'], hpos := [7, 9] }] }

example : KeysOk exL ∧ KeysOk exR ∧ ParentsResolve exL ∧ ParentsResolve exR ∧
    (∀ k, RecKeysOk (exL.recs k)) ∧ (∀ k, RecKeysOk (exR.recs k)) := by
  refine ⟨by decide, by decide, by decide, by decide, ?_, ?_⟩ <;> intro k <;> cases k <;> decide

example : (addedTerms exL exR).map (·.id) = [10] ∧ (removedTerms exL exR).map (·.id) = [] ∧
    (removedRecs .gene exL exR).map (·.id) = [2] := by decide

/-- 118 renamed, 7 gained parent 1, 9 became obsolete with a replacement that now resolves
(999 is not a term of the old ontology: it reads `none` there) -/
example : changedTerms exL exR = .ok [
    { id := 118, names := (['b'], ['B']), addedParents := [], removedParents := [],
      obsolete := (false, false), replacement := (none, none) },
    { id := 7, names := (['c'], ['c']), addedParents := [1], removedParents := [],
      obsolete := (false, false), replacement := (none, none) },
    { id := 9, names := (['d'], ['d']), addedParents := [], removedParents := [],
      obsolete := (false, true), replacement := (none, some 7) }] := by decide

example : changedRecs .omim exL exR =
    [{ id := 3, names := (['o'], ['o']), nTerms := (1, 2), addedTerms := [9], removedTerms := [] }] := by
  decide

example : changedTerms exL exL = .ok [] := by decide

end Hpo.C18
