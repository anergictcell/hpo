import HpoProofs.Read
/-!
# C19 — default categories and modifiers classify every term as documented

`build_with_defaults`, `is_modifier`, `categories` on any builder state (`Onto`); "descends from"
is membership in the term's ancestor group, which C01 proves to be the transitive closure.
-/
namespace Hpo.C19
open Hpo.Group

/-- children of `HP:0000001` / `HP:0000118` in a builder state -/
def kids (o : Onto) (i : Nat) : List Nat := ((o.get i).map (·.children)).getD []

/-- building with defaults fails exactly when one of the two root terms is missing — with an
error, never a panic — and otherwise succeeds -/
theorem C19_error_iff (o : Onto) :
    (o.buildWithDefaults = .err .doesNotExist ↔ ((o.get 1).isNone ∨ (o.get Onto.phenotypeId).isNone)) ∧
    ((∃ o', o.buildWithDefaults = .ok o') ↔ ((o.get 1).isSome ∧ (o.get Onto.phenotypeId).isSome)) := by
  rw [buildWithDefaults_eq]
  cases o.get 1 with
  | none => simp
  | some r => cases o.get Onto.phenotypeId <;> simp

/-- the modifier roots are exactly the children of HP:0000001 other than HP:0000118, the categories
are those plus the children of HP:0000118; both in ascending order; terms, records and release version stay
(the placeholder slot too, `buildWithDefaults_rest`; not in the statement) -/
theorem C19_defaults (o o' : Onto) (h : o.buildWithDefaults = .ok o') :
    (∀ x, x ∈ o'.modifier ↔ x ∈ kids o 1 ∧ x ≠ 118) ∧
    (∀ x, x ∈ o'.categories ↔ (x ∈ kids o 1 ∧ x ≠ 118) ∨ x ∈ kids o 118) ∧
    Sorted o'.modifier ∧ Sorted o'.categories ∧
    o'.terms = o.terms ∧ o'.genes = o.genes ∧ o'.omim = o.omim ∧ o'.orpha = o.orpha ∧
    o'.version = o.version := by
  rw [buildWithDefaults_eq] at h
  split at h
  · rename_i r p h1 h2
    cases h
    refine ⟨fun x => ?_, fun x => ?_, sorted_ofList _, sorted_ofList _, rfl, rfl, rfl, rfl, rfl⟩
    · show _ ↔ x ∈ kids o 1 ∧ x ≠ Onto.phenotypeId
      simp [mem_ofList, kids, h1]
    · show _ ↔ (x ∈ kids o 1 ∧ x ≠ Onto.phenotypeId) ∨ x ∈ kids o Onto.phenotypeId
      simp [mem_ofList, kids, h1, h2]
  · cases h

/-- a term is a modifier iff it is, or descends from, a modifier root -/
theorem C19_is_modifier_iff (o : Onto) (t : Term) :
    o.isModifier t = true ↔ ∃ m ∈ o.modifier, m = t.id ∨ m ∈ t.allParents :=
  o.isModifier_iff t

/-- the categories of a term are exactly the category terms it equals or descends from,
in ascending id order -/
theorem C19_categories_of (o : Onto) (t : Term) (hs : Sorted o.categories) :
    (∀ c, c ∈ o.categoriesOf t ↔ c ∈ o.categories ∧ (c = t.id ∨ c ∈ t.allParents)) ∧
    Sorted (o.categoriesOf t) :=
  ⟨o.mem_categoriesOf t, hs.sublist (o.categoriesOf_sublist t)⟩

/-! ### non-vacuity: roots 1, 118, modifier branch 5 (with child 6), categories 5, 200, 300 -/
def ex19 : Onto :=
  { terms := [{ id := 1, name := [], children := [5, 118] },
              { id := 118, name := [], parents := [1], allParents := [1], children := [200, 300] },
              { id := 5, name := [], parents := [1], allParents := [1], children := [6] },
              { id := 6, name := [], parents := [5], allParents := [1, 5] },
              { id := 200, name := [], parents := [118], allParents := [1, 118] },
              { id := 300, name := [], parents := [118], allParents := [1, 118] }] }

example : ∃ o', ex19.buildWithDefaults = .ok o' ∧ o'.modifier = [5] ∧ o'.categories = [5, 200, 300] ∧
    o'.isModifier { id := 6, name := [], allParents := [1, 5] } = true ∧
    o'.isModifier { id := 200, name := [], allParents := [1, 118] } = false ∧
    o'.categoriesOf { id := 6, name := [], allParents := [1, 5] } = [5] :=
  ⟨{ ex19 with modifier := [5], categories := [5, 200, 300] }, rfl, rfl, rfl, rfl, rfl, rfl⟩

example : ({ terms := [{ id := 1, name := [] }] } : Onto).buildWithDefaults = .err .doesNotExist := by
  decide

end Hpo.C19
