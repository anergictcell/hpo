import HpoProofs.TermId
/-!
# C20 — term-id text and byte conversions are total and mutually inverse

Every id renders as `HP:` and seven digits, parsing the rendering or the big-endian bytes gives the id back, and
parsing arbitrary text never panics: it returns the id when the text after the three-byte prefix is a `u32` in
decimal, an error otherwise.
Property theorems only (model: `HpoModel/TermId.lean`, mirroring `src/term/hpotermid.rs`; helper lemmas:
`HpoProofs/TermId.lean`).
`render` = `Display` (`HP:{:07}`), `parse` = `TryFrom<&str>` as the `fix:` commit left it (`parsePrefix`: the code
before it, for `C20_fix_conservative` and `C20_panic_counterexample`), `toBe`/`fromBe` = big-endian
bytes. A `&str` is a `List Char` (valid UTF-8 by construction); byte offsets are sums of UTF-8 sizes.
All statements are for every `n` / every string: nothing is sampled. The three prefix bytes themselves are not
compared with `HP:` — neither by the code nor by the model (`C20_parse_spec`).
-/
namespace Hpo.C20
open Hpo.TermId

/-- specification of the number grammar: an optional `+`, then one or more digits whose value is
below 2^32 -/
theorem C20_parseU32_spec (cs : List Char) (n : Nat) :
    parseU32 cs = some n ↔
      stripPlus cs ≠ [] ∧ digitsVal (stripPlus cs) 0 = some n ∧ n < 4294967296 := by
  unfold parseU32 parseDigits
  generalize stripPlus cs = ds
  constructor
  · intro h
    split at h
    · simp at h
    · rename_i hne
      cases hv : digitsVal ds 0 with
      | none => simp [hv] at h
      | some v =>
        simp only [hv, Option.bind_some] at h
        split at h
        · rename_i hlt; simp at h; subst h; exact ⟨by simpa using hne, rfl, hlt⟩
        · simp at h
  · rintro ⟨hne, hv, hlt⟩
    simp [hne, hv, hlt]

/-- `digitsVal` succeeds exactly on strings of ASCII digits -/
theorem C20_digits_only (ds : List Char) (acc : Nat) :
    (digitsVal ds acc).isSome ↔ ∀ c ∈ ds, '0' ≤ c ∧ c ≤ '9' := by
  induction ds generalizing acc with
  | nil => simp [digitsVal]
  | cons c ds ih =>
    simp only [digitsVal, List.mem_cons, forall_eq_or_imp]
    by_cases hc : '0' ≤ c ∧ c ≤ '9'
    · simp [digitVal, hc, ih]
    · simp [digitVal, hc]

/-- `try_from(&str)` is total and is exactly: at least 4 bytes, byte 3 on a character boundary,
the rest in the number grammar. (Totality is by construction: `parse` returns `some id` or `none`
= `Err`, there is no panic outcome.) -/
theorem C20_parse_spec (cs : List Char) (n : Nat) :
    parse cs = some n ↔ 4 ≤ byteLen cs ∧ ∃ rest, dropBytes 3 cs = some rest ∧ parseU32 rest = some n := by
  unfold parse
  constructor
  · intro h
    split at h
    · simp at h
    · rename_i hl
      cases hd : dropBytes 3 cs with
      | none => simp [hd] at h
      | some rest => simp [hd] at h; exact ⟨Nat.not_lt.1 hl, rest, rfl, h⟩
  · rintro ⟨hl, rest, hd, hp⟩
    rw [if_neg (Nat.not_lt.2 hl), hd]; simpa using hp

/-- parsing the rendering returns the id — for every u32 (all 10^7 ids of the id space and beyond) -/
theorem C20_roundtrip (n : Nat) (h : n < 4294967296) : parse (render n) = some n := by
  have hplus : '+' ∉ List.replicate (7 - (decimal n).length) '0' ++ decimal n := by
    intro hm
    rcases List.mem_append.1 hm with hm | hm
    · exact absurd (List.mem_replicate.1 hm).2 (by decide)
    · exact not_mem_decimal n '+' (by decide) hm
  have hne : List.replicate (7 - (decimal n).length) '0' ++ decimal n ≠ [] := by
    simp [decimal_ne_nil]
  rw [C20_parse_spec, render_eq]
  refine ⟨?_, _, dropBytes_append ['H', 'P', ':'] _, ?_⟩
  · have := length_le_byteLen (['H', 'P', ':'] ++ (List.replicate (7 - (decimal n).length) '0' ++ decimal n))
    have := List.length_pos_iff.2 hne
    simp only [List.length_append, List.length_cons, List.length_nil] at *
    omega
  · rw [C20_parseU32_spec, stripPlus_of_not_mem _ hplus, digitsVal_zeros, digitsVal_decimal]
    exact ⟨hne, rfl, h⟩

/-- the rendering is `HP:` followed by exactly seven decimal digits for every id of the id space -/
theorem C20_render_form (n : Nat) (h : n < 10000000) :
    ∃ ds : List Char, render n = ['H', 'P', ':'] ++ ds ∧ ds.length = 7 ∧
      (∀ c ∈ ds, ∃ k, c = digitChar k) ∧ digitsVal ds 0 = some n := by
  refine ⟨List.replicate (7 - (decimal n).length) '0' ++ decimal n, by simp [render], ?_, ?_, ?_⟩
  · have := decimal_length_le n 6 (by simpa using h)
    simp; omega
  · intro c hc
    rcases List.mem_append.1 hc with hc | hc
    · have : c = '0' := (List.mem_replicate.1 hc).2
      exact ⟨0, by rw [this]; decide⟩
    · exact decimal_digits n c hc
  · rw [digitsVal_zeros, digitsVal_decimal]

/-- big-endian bytes round-trip for every u32: `from_be_bytes` reads back what `to_be_bytes` writes.  The
second conjunct only shows that the four arguments are the entries of `toBe n` (it is the definition of
`toBe`); the direction in which the range of a byte matters is `C20_bytes_inv`. -/
theorem C20_bytes (n : Nat) (h : n < 4294967296) :
    fromBe (n / 16777216 % 256) (n / 65536 % 256) (n / 256 % 256) (n % 256) = n ∧
    toBe n = [n / 16777216 % 256, n / 65536 % 256, n / 256 % 256, n % 256] := by
  refine ⟨?_, rfl⟩
  have e3 : n / 16777216 = n / 256 / 256 / 256 := by simp only [Nat.div_div_eq_div_mul]
  have e2 : n / 65536 = n / 256 / 256 := by simp only [Nat.div_div_eq_div_mul]
  have h3 : n / 256 / 256 / 256 < 256 :=
    Nat.div_lt_of_lt_mul (Nat.div_lt_of_lt_mul (Nat.div_lt_of_lt_mul h))
  rw [fromBe_horner, e3, e2, Nat.mod_eq_of_lt h3, Nat.div_add_mod' (n / 256 / 256) 256,
    Nat.div_add_mod' (n / 256) 256, Nat.div_add_mod' n 256]

/-- and conversely for every four bytes -/
theorem C20_bytes_inv (a b c d : Nat) (ha : a < 256) (hb : b < 256) (hc : c < 256) (hd : d < 256) :
    toBe (fromBe a b c d) = [a, b, c, d] ∧ fromBe a b c d < 4294967296 := by
  rw [fromBe_horner, toBe_div]
  obtain ⟨d1, m1⟩ := byte_step ((a * 256 + b) * 256 + c) d hd
  obtain ⟨d2, m2⟩ := byte_step (a * 256 + b) c hc
  obtain ⟨d3, m3⟩ := byte_step a b hb
  rw [d1, m1, d2, m2, d3, m3, Nat.mod_eq_of_lt ha]
  exact ⟨rfl, digit_step_lt (digit_step_lt (digit_step_lt ha hb) hc) hd⟩

/-- the fixed function agrees with the code before the fix wherever that did not panic … -/
theorem C20_fix_conservative (cs : List Char) :
    parsePrefix cs = .panic ∨
    (parsePrefix cs = match parse cs with | some n => .ok n | none => .err .parseInt) := by
  unfold parsePrefix parse
  split
  · right; rfl
  · cases dropBytes 3 cs with
    | none => left; rfl
    | some r => right; simp only [Option.bind_some]; cases parseU32 r <;> rfl

/-- … and the code before the fix did panic: `"HPé1"` (byte 3 is inside `é`) -/
theorem C20_panic_counterexample : parsePrefix ['H', 'P', 'é', '1'] = .panic := by decide

/-! ### non-vacuity (the literals become character lists by `String.toList_ofList`, then evaluation) -/
example : render 118 = "HP:0000118".toList := by rw [String.toList_ofList]; decide
example : parse "HP:0000118".toList = some 118 := by rw [String.toList_ofList]; decide
example : parse "HP:+7".toList = some 7 := by rw [String.toList_ofList]; decide
example : parse "HPé1".toList = none := by rw [String.toList_ofList]; decide
example : parse "HP:".toList = none := by rw [String.toList_ofList]; decide
example : parse "HP:-1".toList = none := by rw [String.toList_ofList]; decide
example : parse "HP:4294967296".toList = none := by rw [String.toList_ofList]; decide
example : parse "HP:4294967295".toList = some 4294967295 := by rw [String.toList_ofList]; decide
example : render 4294967295 = "HP:4294967295".toList := by rw [String.toList_ofList]; decide

end Hpo.C20
